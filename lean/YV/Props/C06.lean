/-
  Props.C06 — compiled machines are immutable and safe under concurrency.

  Interleavings of goroutines are not something a Lean function has; what is stated here is
   (1) the specification: a run's outcome is a function of (program, data tree) — the model's `run` starts
       from the initial state and the program is only read — so the outcomes of any batch of runs are, run
       by run, the isolated outcomes, in whatever order the runs are taken;
   (2) regenerated facts about the real package (tools/gen, go/ast over xpath/*.go on every run): no function
       stores through a value of type Machine; the only package-level variables written after initialisation
       are the debug logger, the test bookkeeping map, and the function table and its loaded-flag; the table
       and the flag are written only inside RegisterCustomFunctions, which LookupXpathFunction calls with the
       package mutex held.  A change that gives the machine or the package mutable state breaks these obligations.
  That the real machine behaves like (1) after any history and under concurrency is sampled by the stream
  `yconc` on a race-detector build.
-/
import YV.Model.XPathM
import YV.Gen.Conc
import YV.Gen.Status
namespace YV.Props.C06
open YV YV.XM

/-- **C06 (specification).** Taking the trees of a batch in another order permutes in the same way which of the runs
    yield a value.  This is `Perm.map` of a function of the tree: what it records is only that `run` is a function of
    (program, tree), and of the outcome it looks at `.value.isSome` alone. -/
theorem C06_isolated (fixRoot : Bool) (prog : List XP.PI) (ts ts' : List Tree) (h : ts.Perm ts') :
    (ts.map fun t => (run fixRoot t prog).value.isSome).Perm (ts'.map fun t => (run fixRoot t prog).value.isSome) :=
  h.map _

theorem C06_gen_complete : Gen.extractionFailures = [] := rfl

/-- no function of package xpath writes a field of a Machine -/
theorem C06_machine_never_written : Gen.concMachineWrites = [] := rfl

/-- the package-level variables, and every function that stores to one -/
theorem C06_globals : Gen.concGlobals =
    ["dlog", "mu", "pluginsLoaded", "testedFunctionTable", "testedMu", "xpathFunctionTable"] := rfl

theorem C06_global_writes : Gen.concGlobalWrites =
    ["SetDebugLogger: dlog", "init: dlog", "markFunctionAsTested: testedFunctionTable",
     "registerCustomFunctions: pluginsLoaded", "registerCustomFunctions: xpathFunctionTable"] := rfl

/-- the function table is read, lazily filled and (after the repair) extended by a plugin registration with the
    package mutex held; the table of tested functions is written, by runs in validation mode, under a mutex of its
    own (after the repair); the one remaining unguarded store is the debug logger -/
theorem C06_lookup_locked : "LookupXpathFunction" ∈ Gen.concLockedFuncs := by
  simp only [Gen.concLockedFuncs, List.mem_cons, true_or, or_true]
theorem C06_register_locked : "RegisterCustomFunctions" ∈ Gen.concLockedFuncs := by
  simp only [Gen.concLockedFuncs, List.mem_cons, true_or, or_true]
theorem C06_tested_locked : "markFunctionAsTested: testedMu" ∈ Gen.concLockedFuncs := by
  simp only [Gen.concLockedFuncs, List.mem_cons, true_or, or_true]

end YV.Props.C06
