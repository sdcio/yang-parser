/-
  C05 — XPath compilation and execution are total and report failures faithfully.
-/
import YV.Proofs.XRun
import YV.Proofs.XTotal
import YV.Proofs.XBytes
namespace YV.C05
open YV YV.X YV.XP YV.XM YV.XL

/-- Running any compiled machine (every program the builders emit ends with `store`) on any tree with any
    injected fault yields a value or an error, never both and never neither. -/
theorem C05_run_value_xor_error (fx : Bool) (t : Tree) (p : List PI) :
    let o := run fx t (p ++ [.store])
    (o.value.isSome = true ∧ o.err.isNone = true) ∨ (o.value.isNone = true ∧ o.err.isSome = true) :=
  run_value_xor_error fx t p

/-- The error of the first failing instruction is the error of the run: once the data tree has reported
    an error no later instruction replaces it with an unrelated internal one. -/
theorem C05_first_error_wins (fx : Bool) (t : Tree) (p q : List PI) (i : PI) (s : MSt) (f : Fail)
    (hp : execTrace fx t p {} = (s, none)) (hi : step fx t i s = .error f) :
    (run fx t (p ++ i :: q)).err = some f.err ∧ (run fx t (p ++ i :: q)).value = none :=
  run_first_error fx t p q i s f hp hi

/-- A failing data-tree callback is reported as the tree's error. -/
theorem C05_callback_error (t : Tree) (what : String) (s : MSt) (f : Fail)
    (h : callback t what s = .error f) : f.err = .tree s!"injected-fault-{t.failAt}" :=
  callback_error t what s f h

/-- **building a machine is total**: for every byte string, every grammar and every prefix map the outcome
    is a machine, an error, or the modelled panic of the unrepaired position arithmetic — never a parser
    that runs on: every call that recurses without having consumed a token is one of a bounded chain
    (eleven mutually recursive functions for must/when, six for leafref paths; invariant carried by
    induction on the fuel) -/
theorem C05_build_total (strict fixed : Bool) (g : Grammar) (pm : PfxMap) (bs : List Nat) :
    build strict fixed g pm bs ≠ .diverge :=
  build_total strict fixed g pm bs

/-- **the error marks a position inside the expression** (after the repair of `CommonLex.Error`): for every
    byte string, every grammar and prefix map, building never hits the out-of-range slice of `CreateProgram`,
    and the index at which an error splits the expression lies between 0 and its length — the lexer never
    claims more unread bytes than the expression has (byte accounting through every lexer function: what
    `next` hands out it has taken off the account, what is put back was handed out just before, a decoded
    rune re-encodes to at most the bytes it was read from) -/
theorem C05_error_position_inside (strict : Bool) (g : Grammar) (pm : PfxMap) (bs : List Nat) :
    (∀ why, build strict true g pm bs ≠ .panic why) ∧
    (∀ mark kind, build strict true g pm bs = .error mark kind → 0 ≤ mark ∧ mark ≤ bs.length) :=
  build_mark strict g pm bs

/-- non-vacuity: a tree whose first callback fails makes `evalLocPath` fail with the tree's error -/
example : (run true { value := fun _ => .emptyNodeset, failAt := 1, derefTarget := id }
            [.namePush [] [97], .evalLocPath, .store]).err = some (.tree "injected-fault-1") := by decide +kernel

end YV.C05
