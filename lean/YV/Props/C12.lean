/-
  Props.C12 — uses, refine and augment expand to the equivalent inline definition.

  The statement "the expanded module compiles to the same schema as the inline module" is checked on the
  real compiler by construction (the generator writes the inline module and factors it into groupings,
  refines and augments) and against this model; the theorems below are the facts about the expansion that
  hold for every grouping environment and every nesting.  `C12_written_out_is_fixed_point` is the statement of
  the property on the model: what the expansion yields, written out as a module text without any uses, compiles
  to the very same definitions — so a module and "the module with everything written in place" have one schema.
-/
import YV.Proofs.YInline
namespace YV.Props.C12
open YV YV.Y YV.SC YV.C

/-- **C12 (uses = inline).** A uses with nothing under it is its grouping body written in place, for every
    body — nested uses included — and whatever follows it -/
theorem C12_uses_is_inline (env : GEnv) (ns : Tok) (fuel : Nat) (g : Tok) (body r : List G)
    (hg : env.lookup g = some body) :
    expandKids env ns (fuel + 2) (.uses g [] [] [] :: r) =
      (do let a ← expandKids env ns fuel body
          let b ← expandKids env ns (fuel + 1) r
          pure (a ++ b)) := uses_is_inline env ns fuel g body r hg

/-- **C12 (written in place = expanded).** Let a body with uses (nested, refined, augmented inside the uses)
    expand to `r` in module `ns`.  Then `r` written out as source — no uses left: the grouping bodies and the
    augmenting nodes stand in place, the refinements are applied — is a module body that expands to `r` again,
    whatever groupings are in scope (`env'`), given fuel for its size -/
theorem C12_written_out_is_fixed_point (env env' : GEnv) (ns : Tok) (fuel : Nat) (gs : List G) (r : List A)
    (h : expandKids env ns fuel gs = .ok r) (fuel' : Nat) (hf : szAll r ≤ fuel') :
    expandKids env' ns fuel' (embed.embedAll r) = .ok r := expand_fixed_point env env' ns fuel gs r h fuel' hf

/-- a module body without uses expands to itself, the module written on every node -/
theorem C12_plain_is_itself (env : GEnv) (ns : Tok) (l : List A) (fuel : Nat) (hf : szAll l ≤ fuel) :
    expandKids env ns fuel (embed.embedAll l) = .ok (stampAll ns l) := expand_embedAll env ns l fuel hf

/-- **C12 (namespace, at every depth).** every node of an expansion — the children of the nodes a uses brings
    in and the nodes an augment under it adds included — belongs to the module it is expanded in -/
theorem C12_namespace_deep (env : GEnv) (ns : Tok) (fuel : Nat) (gs : List G) (as : List A)
    (h : expandKids env ns fuel gs = .ok as) : deepAll ns as = true := expandKids_deep env ns fuel gs as h

/-- **C12 (namespace).** Whatever grouping environment, nesting, refines and augments: every node a
    module's expansion produces at a level belongs to the module it is expanded in (the using module for
    nodes copied from a grouping — also a grouping of another module).  `expandModule` expands the children
    of a module-level augment with the augmenting module as `ns`; no theorem here is about `expandModule`
    itself -/
theorem C12_namespace (env : GEnv) (ns : Tok) (fuel : Nat) (gs : List G) (as : List A)
    (h : expandKids env ns fuel gs = .ok as) : ∀ a ∈ as, a.meta.ns = ns := expandKids_ns env ns fuel gs as h

/-- **C12 (if-feature on a uses or augment).** applies to every node introduced (a refine under the uses does
    not remove it: `C12_refine_keeps_iff`; that an augment under it does not is not stated) -/
theorem C12_iff_applies (fs : List Tok) (l : List A) : ∀ a ∈ l.map (addIff fs), ∀ f ∈ fs, f ∈ a.meta.iff := by
  intro a ha f hf
  simp only [List.mem_map] at ha
  obtain ⟨b, _, rfl⟩ := ha
  rw [addIff_iff]; simp [hf]

/-- **C12 (status on a uses or augment).** applies to every node introduced that has no status of its own; a node
    that has one keeps it -/
theorem C12_status_applies (st : Nat) (a : A) : (addSt st a).meta.st = some (a.meta.st.getD st) := by
  unfold addSt
  cases h : a.meta.st with
  | some s => rw [if_pos (Option.isSome_some ..), h]; rfl
  | none => rw [if_neg (by rw [Option.isSome_none]; nofun), meta_setMeta]; rfl

theorem C12_uses_status (env : GEnv) (ns : Tok) (fuel : Nat) (st : Nat) (g : G) :
    expandOne env ns (fuel + 1) (.stat st g) = (expandOne env ns fuel g).map fun r => r.map (addSt st) := by
  simp only [expandOne]
  cases expandOne env ns fuel g <;> rfl

theorem C12_refine_keeps_iff (a : A) (p : RProp) (v : Bytes) : (setRefine a p v).meta.iff = a.meta.iff := by
  obtain ⟨c, hc⟩ := setRefine_meta a p v
  rw [hc]

/-- **C12 (name clash).** In every tree the compiler builds, the names in the child map of every node —
    its data children, with those of its choices and their cases flattened in — are pairwise distinct:
    a clash among the siblings that uses and augment produce is a compile error -/
theorem C12_no_clash (f : Attr → Bool) (env : FeatEnv) (inh : Inh) (a : A) (at_ : Attr) (ks : List CN)
    (h : build f env inh a = .ok (.mk at_ ks)) :
    (at_.kind = .choice → (flatCaseNames ks).Nodup) ∧ (at_.kind ≠ .choice → (flatNames ks).Nodup) :=
  build_names f env inh a at_ ks h

/-! non-vacuity: grouping g { leaf x; } used in module m: the leaf belongs to m; a refine sets its default -/
example : expandKids [([1], [.leaf [9] {} false none])] [109] 5 [.uses [1] [] [⟨[[9]], .dflt, [53]⟩] []] =
    .ok [.leaf [9] { ns := [109] } false (some [53])] := by
  simp [expandKids, expandOne, List.lookup, applyRefine, atPath_cons, setRefine.eq_2, addIff, A.setMeta, A.meta, A.name,
    List.foldlM, Except.map]

/-! non-vacuity of the fixed point: container c { uses g { refine x { default 5 } augment x-holder … } } -/
def demoEnv : GEnv := [([1], [.container [7] {} false [.leaf [9] {} false none]])]
def demoBody : List G := [.uses [1] [] [⟨[[7], [9]], .dflt, [53]⟩] [.aug [[7]] [] [.leafList [8] {} none none]]]
def demoOut : List A :=
  [.container [7] { ns := [109] } false [.leaf [9] { ns := [109] } false (some [53]), .leafList [8] { ns := [109] } none none]]
theorem demo_expands : expandKids demoEnv [109] 6 demoBody = .ok demoOut := by
  -- the equations of the constructors met, not `setRefine`, `A.kids`, `A.setKids` themselves: unfolded to their
  -- `match`, `simp` tries the catch-all case, at length, on every term it has not evaluated yet
  simp [demoEnv, demoBody, demoOut, expandKids, expandOne, List.lookup, applyRefine, applyUsesAug, addKidsAt, atPath_cons,
    setRefine.eq_2, addIff, A.setMeta, A.meta, A.name, A.kids.eq_1, A.setKids.eq_1, A.augmentable, List.foldlM, Except.map]
example : expandKids demoEnv [109] 6 demoBody = .ok demoOut := demo_expands
example : expandKids [] [109] 20 (embed.embedAll demoOut) = .ok demoOut :=
  C12_written_out_is_fixed_point demoEnv [] [109] 6 demoBody demoOut demo_expands 20 (by simp [demoOut, szAll, sz])

end YV.Props.C12
