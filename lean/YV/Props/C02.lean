/-
  C02 — location paths resolve to exactly the designated data node
  (lemmas: YV/Proofs/XPathC.lean, YV/Proofs/XKeys.lean, YV/Proofs/XRun.lean).
-/
import YV.Proofs.XPathC
import YV.Proofs.XKeys
import YV.Proofs.XRun
namespace YV.C02
open YV YV.X YV.XP YV.XM YV.XPS YV.XC

/-- Full statement of the property:  for every supported path `p`, every tree `t`
    without injected fault, `run (program p)` = the specification's requests and value.
    What is proved is `C02_nav_partial`: the same statement for paths whose predicate operands are
    literals, numbers, predicate-free paths (absolute, current()-rooted, '..'-rooted) and function results —
    any closed, arity-correct expression without '=' over the functions of C01_machine_is_xpath: the scalar
    sub-machine runs inside the predicate (`exec_scalarCode`) and the key receives the string-value the XPath 1.0
    semantics gives the operand (`evalM_spec`) — and whose predicates use pairwise different keys per step
    (`GoodPath`).  Missing: operands calling round() / substring() (see C01) or containing '=' (inside a
    predicate the '=' instruction records a key).
    Two predicates with the same key on one step are outside what the property fixes. -/
theorem C02_nav_partial (t : Tree) (hf : NoFault t) (hv : ValidTree t) (p : PathE) (hg : GoodPath p) :
    run true t (program (.path p)) =
      { value := some (evalPath t p).2, err := none, trace := (evalPath t p).1 } :=
  run_path_eq_spec t hf hv p hg

/-- **C02 (several location paths in one expression).** The operands of an operator, the arguments of a function: for
    every list of supported paths, the code that evaluates them one after the other issues the requests of the first,
    then those of the second, … — each path resolved from the context node exactly as if it stood alone, nothing of one
    path left behind for the next — and leaves their values on the stack in source order, the machine otherwise as it
    started (one empty context path, no predicate open). -/
theorem C02_paths_in_sequence (t : Tree) (hf : NoFault t) (hv : ValidTree t) (ps : List PathE)
    (hg : ∀ p ∈ ps, GoodPath p) :
    ∃ s', exec true t (pathsCode ps) {} = .ok s' ∧ s'.trace.reverse = pathsTrace t ps ∧
      s'.stack = (pathsValues t ps).reverse ∧ s'.paths = [{}] ∧ s'.predCount = 0 := by
  have h := exec_paths t hf hv ps hg {} ⟨rfl, rfl, rfl, rfl, rfl⟩
  exact ⟨_, h, by simp only [after, List.append_nil, List.reverse_reverse], List.append_nil _, rfl, rfl⟩

/-- that code is what the compiler writes for two paths under a binary operator and for two paths as arguments -/
theorem C02_operands_code (op : BinOp) (p1 p2 : PathE) :
    code (.bin op (.path p1) (.path p2)) = pathsCode [p1, p2] ++ [binPI op] := by
  simp only [code, pathsCode, List.append_nil]

theorem C02_arguments_code (f : Fn) (p1 p2 : PathE) :
    code (.call f [.path p1, .path p2]) = pathsCode [p1, p2] ++ [.bltin f] := by
  simp only [code, codeList, pathsCode, List.append_nil]

/-- Predicate order is irrelevant for the node that is designated: permuting the predicates of a step
    (pairwise different keys) leaves the step's path element — name and key set — unchanged. -/
theorem C02_pred_order (t : Tree) (p : Path) (n : Str) (preds preds' : List (Str × Operand))
    (hp : preds.Perm preds') (hd : (preds.map Prod.fst).Nodup) :
    (stepPath t p (.named n preds)).1 = (stepPath t p (.named n preds')).1 :=
  stepPath_perm t p n hp hd

/-- A prefix on a step never changes which node is addressed: the machine does not look at it. -/
theorem C02_prefix_irrelevant (t : Tree) (pfx pfx' loc : List XL.Rune) (s : MSt) :
    step true t (.namePush pfx loc) s = step true t (.namePush pfx' loc) s := rfl

/-- non-vacuity: `/a/b[k2=../x][k1='v']/c` is a covered path, on a concrete tree -/
def exPath : PathE :=
  .basic .abs [.named "a".toList [],
               .named "b".toList [("k2".toList, .path ⟨.rel, [.up, .name "x".toList]⟩), ("k1".toList, .lit "v".toList)],
               .named "c".toList []]

def exTree : Tree := { value := fun p => .lit (showPath p).toList, derefTarget := id }

example : GoodPath exPath ∧ NoFault exTree ∧ ValidTree exTree := by
  refine ⟨?_, rfl, fun p => nofun⟩
  -- steps a and c have no predicate; on b the operands are a path and a literal, under different keys
  exact List.forall_mem_cons.mpr ⟨trivial, List.forall_mem_cons.mpr
    ⟨⟨trivial, by decide, trivial, List.forall_mem_nil _, trivial⟩, List.forall_mem_cons.mpr ⟨trivial, List.forall_mem_nil _⟩⟩⟩

example : (run true exTree (program (.path exPath))).trace =
    ["Navigate(ROOT/a/b/../x)", "GetValue(ROOT/a/b/../x)",
     "Navigate(ROOT/a/b[k1=v][k2=ROOT/a/b/../x]/c)", "GetValue(ROOT/a/b[k1=v][k2=ROOT/a/b/../x]/c)"] := by
  decide +kernel

/-- non-vacuity for function-result operands: `/a[k=concat('x', string(1 + 2))]` addresses `a[k=x3]` -/
def exFn : PathE :=
  .basic .abs [.named "a".toList [("k".toList,
    .scalar (.call .concat [.lit "x".toList, .call .string [.bin .add (.num SF.one) (.num (SF.ofNat 2))]]))]]

example : GoodPath exFn := by
  intro st hst
  cases List.mem_singleton.mp hst
  exact ⟨⟨⟨rfl, trivial, ⟨rfl, ⟨trivial, trivial⟩, trivial⟩, trivial⟩,    -- WellFormed: the two arities
      ⟨rfl, trivial, ⟨rfl, ⟨trivial, trivial⟩, trivial⟩, trivial⟩,          -- PureX: concat and string
      trivial, ⟨⟨nofun, trivial, trivial⟩, trivial⟩, trivial⟩,             -- ClosedNoEq: `+` is not `=`
    List.forall_mem_nil _, trivial⟩

end YV.C02
