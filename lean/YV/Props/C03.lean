/-
  C03 — operator precedence, associativity and whitespace are honoured.

  What is proved, in one line: for written expressions `e1 e2 : XP.PE` (the parser's side) with the same tree
  `e1.tree = e2.tree : XP.ET`, and admissible texts `a` of `e1`, `b` of `e2` (parenthesisation respecting
  precedence/left-associativity, any white space at token boundaries):
  build a = build b = machine (e1.tree.code ++ [.store]).  `XP.ET` and its `code` are not related here to the
  specification's trees `XC.XE` and `XC.program`; `C03_program_runs` is about those.

  Proved here:
  - the grammar the parser model transcribes is the grammar of the source, production by production
    (regenerated obligation);
  - precedence and associativity (`C03_precedence`, `C03_parenthesisation_irrelevant`): for every expression over
    numbers, literals, location paths (absolute, relative, current()-rooted; name, `..` and `.` steps; any number of
    predicates on a name step, each containing any expression of this kind again — `blk_of`), unary minus, the
    thirteen binary operators, unions, parentheses and function calls with up to three argument expressions — any
    mix, any depth — that carries at least the parentheses its shape needs (`PE.fits 0`: a left operand may be of
    the operator's own level, a right operand must bind tighter, the operand of unary minus is unary), the parser
    returns the postfix code of the tree; so two ways of writing one tree compile to the same program;
  - the program `XC.program e` of any specification tree `e : XC.XE` runs to a value or an error
    (`C03_program_runs`);
  - the lexer's part (`C03_text_to_program`, `C03_texts_agree`, `C03_lexer_reads_back`): the text of such an
    expression, written as its tokens with any white space between them (none where the next character cannot
    continue the token: `1-1*1`, `not(1)`), is turned by `build` — decode, lex, parse, CreateProgram — into the
    machine of the tree.  `C03_leading_ws_partial` is the same for one token on the raw lexer state; it needs
    `s.peek = 0` (no rune read ahead), as at the start of the input.
  NOT proved, held by the correspondence stream c03 (two renderings of one tree, compared with each other and with
  `XC.program`), i.e. by testing: deref(); at the text level, numerals with an exponent, names that do not begin
  with a small ASCII letter, axis names and node types.
-/
import YV.Proofs.XLexWS
import YV.Proofs.XRun
import YV.Proofs.XPrec
import YV.Proofs.XText
import YV.Spec.XCompile
import YV.Model.XTables
import YV.Gen.XPath
namespace YV.C03
open YV YV.X YV.XL YV.XP YV.XM YV.XC

theorem C03_grammar_is_source : Gen.exprRules = XT.exprRules := rfl

/-- precedence and associativity are read off the productions; no conflict is resolved by yacc defaults -/
theorem C03_no_conflicts : Gen.yaccConflicts.lookup "xpath.y" = some "0/0" := by decide +kernel

theorem C03_leading_ws_partial (strict : Bool) (g : Grammar) (pm : PfxMap) (ws l : List SrcRune)
    (h : AllWS ws) (s : LexSt) (hp : s.peek = 0) :
    lexCommon strict g pm { s with line := ws ++ l } = lexCommon strict g pm { s with line := l } :=
  lexCommon_leading_ws strict g pm ws l h s hp

/-- non-vacuity: whitespace is a non-empty class, and the lemma applies at the start of any input -/
example : AllWS [⟨32, 1⟩, ⟨9, 1⟩, ⟨10, 1⟩, ⟨13, 1⟩] ∧ ({ line := [] } : LexSt).peek = 0 :=
  ⟨by unfold AllWS; decide, rfl⟩

/-- **C03 (precedence, associativity).** the parser turns the tokens of a written expression into the
    postfix code of its tree followed by `store`, and records no error -/
theorem C03_precedence (e : PE) (hf : e.fits 0) (toks : List LexedTok)
    (ht : toks.map (·.tok) = e.toks ++ [.eof]) :
    ∃ s', parseExprToks false toks = .ok s' ∧ s'.out.reverse = e.tree.code ++ [.store] ∧ s'.perr = none :=
  parseExprToks_spec e hf toks ht

/-- two ways of writing the same tree — the minimal parentheses, explicit parentheses everywhere, anything
    in between — compile to the same program -/
theorem C03_parenthesisation_irrelevant (e1 e2 : PE) (h : e1.tree = e2.tree) (h1 : e1.fits 0) (h2 : e2.fits 0)
    (t1 t2 : List LexedTok) (ht1 : t1.map (·.tok) = e1.toks ++ [.eof]) (ht2 : t2.map (·.tok) = e2.toks ++ [.eof]) :
    ∃ s1 s2, parseExprToks false t1 = .ok s1 ∧ parseExprToks false t2 = .ok s2 ∧ s1.out = s2.out := by
  obtain ⟨s1, p1, o1, _⟩ := parseExprToks_spec e1 h1 t1 ht1
  obtain ⟨s2, p2, o2, _⟩ := parseExprToks_spec e2 h2 t2 ht2
  exact ⟨s1, s2, p1, p2, List.reverse_inj.mp (by rw [o1, o2, h])⟩

/-- non-vacuity: 1 - 2 - 3 * -4 = 5 or x — written bare, and with every parenthesis made explicit — both fit -/
def exBare : PE :=
  .bin .or (.bin .eq (.bin .sub (.bin .sub (.num SF.one) (.num SF.one)) (.bin .mul (.num SF.one) (.neg (.num SF.one)))) (.num SF.one)) (.lit [120])
def exFull : PE :=
  .bin .or (.paren (.bin .eq (.paren (.bin .sub (.paren (.bin .sub (.num SF.one) (.num SF.one))) (.paren (.bin .mul (.num SF.one) (.paren (.neg (.num SF.one))))))) (.num SF.one))) (.lit [120])
example : exBare.fits 0 ∧ exFull.fits 0 ∧ exBare.tree = exFull.tree := by
  refine ⟨?_, ?_, rfl⟩ <;> dsimp only [exBare, exFull, PE.fits] <;> decide
/-- … with function calls: concat('x', 1 - 1 * 1) or not((1 = 1)) -/
def exCall : PE :=
  .bin .or (.call2 .concat (.lit [120]) (.bin .sub (.num SF.one) (.bin .mul (.num SF.one) (.num SF.one))))
    (.call1 .not (.paren (.bin .eq (.num SF.one) (.num SF.one))))
example : exCall.fits 0 := by dsimp only [exCall, PE.fits]; decide
/-- … with location paths as operands: ../a/b + /c * current()/d = . -/
def exPath : PE :=
  .bin .eq (.bin .add (.path (.rel .up) [.name [] [97] [], .name [] [98] []])
      (.bin .mul (.path .abs [.name [] [99] []]) (.path .cur [.name [] [100] []])))
    (.path (.rel .dot) [])
example : exPath.fits 0 := by
  dsimp only [exPath, PE.fits, pathOK, PStep.ok]
  simp only [List.forall_mem_cons, PStep.preds, List.not_mem_nil, false_imp_iff, implies_true]
  decide
/-- … with predicates, whose contents are expressions of the same kind (`blk_of`), to any depth:
    a[k = 1][../x]/b -/
def exKey : PE := .bin .eq (.path (.rel (.name [] [107] [])) []) (.num SF.one)
def exUp : PE := .path (.rel .up) [.name [] [120] []]
def exPred : PE := .path (.rel (.name [] [97] [⟨exKey.toks, exKey.code⟩, ⟨exUp.toks, exUp.code⟩])) [.name [] [98] []]
example : exPred.fits 0 := by
  have h1 : exKey.fits 0 := by
    dsimp only [exKey, PE.fits, pathOK, PStep.ok, PStep.preds]
    simp only [List.not_mem_nil, false_imp_iff, implies_true]
    decide
  have h2 : exUp.fits 0 := by
    dsimp only [exUp, PE.fits, pathOK, PStep.ok]
    simp only [List.forall_mem_cons, PStep.preds, List.not_mem_nil, false_imp_iff, implies_true, and_self]
  -- the two predicates of the first step; the second step has none
  exact ⟨List.forall_mem_cons.2 ⟨blk_of exKey h1, List.forall_mem_cons.2 ⟨blk_of exUp h2, List.forall_mem_nil _⟩⟩,
    List.forall_mem_cons.2 ⟨List.forall_mem_nil _, List.forall_mem_nil _⟩⟩
/-- … and with unions, which bind tighter than unary minus and associate to the left: - a | /c | count(b) + 1
    is ((-((a | /c) | count(b))) + 1) -/
def exUnion : PE :=
  .bin .add (.neg (.union (.union (.path (.rel (.name [] [97] [])) []) (.path .abs [.name [] [99] []]))
      (.call1 .count (.path (.rel (.name [] [98] [])) [])))) (.num SF.one)
example : exUnion.fits 0 := by
  dsimp only [exUnion, PE.fits, pathOK, PStep.ok]
  simp only [List.forall_mem_cons, PStep.preds, List.not_mem_nil, false_imp_iff, implies_true]
  decide
example : exUnion.tree.code =
    [.namePush [] [97], .evalLocPath, .pathRoot, .namePush [] [99], .evalLocPath, .union,
     .namePush [] [98], .evalLocPath, .bltin .count, .union, .negate, .num SF.one, .add, ] := rfl
/-- a union operand is a path-level expression: `a | -b` is not a union (the parser refuses it, too) -/
example : ¬ (PE.union (.path (.rel (.name [] [97] [])) []) (.neg (.path (.rel (.name [] [98] [])) []))).fits 0 :=
  fun h => Bool.noConfusion h.2.2.1
/-- and a shape that needs its parentheses does not fit without them: 1 - (2 - 3) written as 1 - 2 - 3 is
    another tree -/
example : ¬ (PE.bin .sub (.num SF.one) (.bin .sub (.num SF.one) (.num SF.one))).fits 0 :=
  fun h => absurd h.2.2.1 (by decide)

/-- the program of any tree ends in `store`, hence runs to a value xor an error -/
theorem C03_program_runs (t : Tree) (e : XE) :
    let o := run true t (program e)
    (o.value.isSome = true ∧ o.err.isNone = true) ∨ (o.value.isNone = true ∧ o.err.isSome = true) :=
  run_value_xor_error true t (code e)

/-- **C03 (text → program).**  An expression of the operator fragment written as its tokens — numerals, literals
    in either kind of quotes, operator signs and names, parentheses, commas, function names, and location paths
    of names (a prefix being one the map resolves), `..`, `.`, `/` and `current()` (a bare `/` excepted: after it the lexer takes an operator
    name for a name, XPath 1.0 §3.7) — with any white space
    (any amount and mix of blank, tab, CR, LF) after each of them and in front of the first, and none at all
    wherever the next character cannot be taken for a continuation of the token (`glued`: a digit, `.`, `e`, `E`
    after a numeral; a name character after a name; `=` after `<` or `>`; `/` after `/`; `.` or a digit after `.`):
    `build` (= NewExpressionMachine of the
    model: decode, lex, parse, CreateProgram) returns the machine whose program is the postfix code of the
    expression's tree.  `*`, `and`, `or`, `mod`, `div` are read as operators because of the token before them, a
    function name because of the `(` after it (XPath 1.0 §3.7). -/
theorem C03_text_to_program (e : PE) (hf : e.fits 0) (hn : e.lexable) (items : List Item) (hi : items.map (·.tok) = e.toks)
    (hok : ∀ i ∈ items, i.ok) (hgl : glued items) (lead : List Rune) (hl : ∀ x ∈ lead, isWS x = true) (pm : PfxMap)
    (hpf : ∀ i ∈ items, ∀ p l, i.tok = .nametest p l → pfxOk pm p = true)
    (fixed : Bool) (bs : List Nat) (hbs : (decode bs).map (·.cp) = lead ++ renderX items) :
    build false fixed .expr pm bs = .machine (e.tree.code ++ [.store]) :=
  text_to_program e hf hn items hi hok hgl lead hl pm hpf fixed bs hbs

/-- … for a text of ASCII bytes the decoding is the identity -/
theorem C03_text_to_program_ascii (e : PE) (hf : e.fits 0) (hn : e.lexable) (items : List Item) (hi : items.map (·.tok) = e.toks)
    (hok : ∀ i ∈ items, i.ok) (hgl : glued items) (lead : List Rune) (hl : ∀ x ∈ lead, isWS x = true) (pm : PfxMap)
    (hpf : ∀ i ∈ items, ∀ p l, i.tok = .nametest p l → pfxOk pm p = true)
    (fixed : Bool) (ha : ∀ b ∈ lead ++ renderX items, b < 128) :
    build false fixed .expr pm (lead ++ renderX items) = .machine (e.tree.code ++ [.store]) :=
  text_to_program e hf hn items hi hok hgl lead hl pm hpf fixed _ (decode_ascii _ ha)

/-- … and white space after every token is always enough -/
theorem C03_text_to_program_spaced (e : PE) (hf : e.fits 0) (hn : e.lexable) (items : List Item) (hi : items.map (·.tok) = e.toks)
    (hok : ∀ i ∈ items, i.ok ∧ i.sep ≠ []) (lead : List Rune) (hl : ∀ x ∈ lead, isWS x = true) (pm : PfxMap)
    (hpf : ∀ i ∈ items, ∀ p l, i.tok = .nametest p l → pfxOk pm p = true)
    (fixed : Bool) (bs : List Nat) (hbs : (decode bs).map (·.cp) = lead ++ renderX items) :
    build false fixed .expr pm bs = .machine (e.tree.code ++ [.store]) :=
  text_to_program e hf hn items hi (fun i h => (hok i h).1) (glued_of_spaced items hok) lead hl pm hpf fixed bs hbs

/-- **C03 (white space, parentheses: texts).**  Two texts of the same tree — whatever white space separates their
    tokens, whatever redundant parentheses they carry, whichever quotes and numeral spellings they use — build the
    same machine. -/
theorem C03_texts_agree (e1 e2 : PE) (h : e1.tree = e2.tree) (h1 : e1.fits 0) (h2 : e2.fits 0)
    (n1 : e1.lexable) (n2 : e2.lexable)
    (i1 i2 : List Item) (t1 : i1.map (·.tok) = e1.toks) (t2 : i2.map (·.tok) = e2.toks)
    (ok1 : ∀ i ∈ i1, i.ok) (ok2 : ∀ i ∈ i2, i.ok) (g1 : glued i1) (g2 : glued i2) (l1 l2 : List Rune)
    (w1 : ∀ x ∈ l1, isWS x = true) (w2 : ∀ x ∈ l2, isWS x = true) (pm : PfxMap)
    (p1 : ∀ i ∈ i1, ∀ p l, i.tok = .nametest p l → pfxOk pm p = true)
    (p2 : ∀ i ∈ i2, ∀ p l, i.tok = .nametest p l → pfxOk pm p = true) (fixed : Bool) (b1 b2 : List Nat)
    (d1 : (decode b1).map (·.cp) = l1 ++ renderX i1) (d2 : (decode b2).map (·.cp) = l2 ++ renderX i2) :
    build false fixed .expr pm b1 = build false fixed .expr pm b2 := by
  rw [text_to_program e1 h1 n1 i1 t1 ok1 g1 l1 w1 pm p1 fixed b1 d1, text_to_program e2 h2 n2 i2 t2 ok2 g2 l2 w2 pm p2 fixed b2 d2, h]

/-- **C03 (the lexer reads back what was written).**  Not only expressions: ANY sequence of written tokens —
    numerals (digits and points, also beginning with the point), literals, the operator signs and names, `( ) , [ ] | @`, `/`, `//`, `..`, `.`, `*` as operator or
    as wildcard, names with or without a prefix, function names, `current` — with any white space between them (none where
    the next character cannot continue the token) that respects the §3.7 context conditions (`ctxOK`) lexes to
    exactly those tokens followed by the end-of-input token: white space between tokens is insignificant. -/
theorem C03_lexer_reads_back (strict : Bool) (pm : PfxMap) (items : List Item) (lead : List Rune)
    (hl : ∀ x ∈ lead, isWS x = true) (hok : ∀ i ∈ items, i.ok) (hgl : glued items)
    (hctx : ctxOK none (items.map (·.tok))) (hpf : ∀ i ∈ items, ∀ p l, i.tok = .nametest p l → pfxOk pm p = true) (runes : List SrcRune)
    (hr : runes.map (·.cp) = lead ++ renderX items) :
    (lexAllAux strict .expr pm (runes.length + 2) { line := runes }).1.map (·.tok) = items.map (·.tok) ++ [.eof] :=
  lex_text strict pm items lead hl hok hgl hctx hpf runes hr

/-- every function of the table but `current` (a token of its own) has a written form -/
theorem C03_function_names (fn : Fn) (h : fn ≠ .current) : Writes (.func fn) (strR fn.name) :=
  Writes.func fn _ (fnames_ok fn fn.mem_all h)

/-- non-vacuity: `1-1*1` (nothing between the tokens) and `1 - 1 * 1\n` are texts of one tree -/
def exE1 : PE := .bin .sub (.num SF.one) (.bin .mul (.num SF.one) (.num SF.one))
def exT1 : List Item :=
  [⟨.num SF.one, [49], []⟩, ⟨.ch (chr '-'), [45], []⟩, ⟨.num SF.one, [49], []⟩, ⟨.ch (chr '*'), [42], []⟩,
   ⟨.num SF.one, [49], []⟩]
def exT2 : List Item :=
  [⟨.num SF.one, [49], [32]⟩, ⟨.ch (chr '-'), [45], [32]⟩, ⟨.num SF.one, [49], [32]⟩, ⟨.ch (chr '*'), [42], [9, 32]⟩,
   ⟨.num SF.one, [49], [10]⟩]
theorem one_written : Writes (.num SF.one) [49] := Writes.num 49 [] SF.one (by decide) (by simp) (by decide +kernel)
/-- an item with nothing after it -/
theorem tight {tok : Tok} {text : List Rune} (h : Writes tok text) : Item.ok ⟨tok, text, []⟩ := ⟨h, List.forall_mem_nil _⟩
theorem exT1_ok : exT1.map (·.tok) = exE1.toks ∧ (∀ i ∈ exT1, i.ok) ∧ glued exT1 ∧ exE1.fits 0 := by
  refine ⟨rfl, ?_, ?_, by dsimp only [exE1, PE.fits]; decide⟩
  · simp only [exT1, List.forall_mem_cons]
    exact ⟨tight one_written, tight (.sym _ (by decide)), tight one_written, tight .star, tight one_written,
      List.forall_mem_nil _⟩
  · exact ⟨after_cons (by decide) (by decide), after_cons (by decide) (by decide), after_cons (by decide) (by decide),
      after_cons (by decide) (by decide), Or.inl rfl, trivial⟩
theorem exT2_ok : exT2.map (·.tok) = exE1.toks ∧ (∀ i ∈ exT2, i.ok ∧ i.sep ≠ []) := by
  refine ⟨rfl, ?_⟩
  simp only [exT2, List.forall_mem_cons]
  exact ⟨⟨⟨one_written, by decide⟩, nofun⟩, ⟨⟨.sym _ (by decide), by decide⟩, nofun⟩, ⟨⟨one_written, by decide⟩, nofun⟩,
    ⟨⟨.star, by decide⟩, nofun⟩, ⟨⟨one_written, by decide⟩, nofun⟩, List.forall_mem_nil _⟩
/-- the text "1-1*1" builds the program  1 1 1 mul sub store -/
example (pm : PfxMap) (fixed : Bool) :
    build false fixed .expr pm [49, 45, 49, 42, 49] = .machine (exE1.tree.code ++ [.store]) :=
  C03_text_to_program_ascii exE1 exT1_ok.2.2.2 (by simp [exE1, PE.lexable]) exT1 exT1_ok.1 exT1_ok.2.1 exT1_ok.2.2.1 [] (by simp) pm
    (by intro i hi p l e; simp only [exT1, List.mem_cons, List.mem_nil_iff, or_false] at hi; rcases hi with rfl | rfl | rfl | rfl | rfl <;> simp at e) fixed
    (by decide)

/-- … and with a path: the text "../a+1" builds  .. a evalLocPath 1 add store -/
def exE2 : PE := .bin .add (.path (.rel .up) [.name [] [97] []]) (.num SF.one)
def exT3 : List Item :=
  [⟨.dotdot, [46, 46], []⟩, ⟨.ch (chr '/'), [47], []⟩, ⟨.nametest [] [97], [97], []⟩, ⟨.ch (chr '+'), [43], []⟩,
   ⟨.num SF.one, [49], []⟩]
theorem exT3_ok : exT3.map (·.tok) = exE2.toks ∧ (∀ i ∈ exT3, i.ok) ∧ glued exT3 ∧ exE2.fits 0 ∧ exE2.lexable := by
  refine ⟨rfl, ?_, ?_, ?_, ?_⟩
  · simp only [exT3, List.forall_mem_cons]
    exact ⟨tight .dotdot, tight .slash, tight (.name [97] (by decide)), tight (.sym _ (by decide)), tight one_written,
      List.forall_mem_nil _⟩
  · exact ⟨after_cons (by decide) (by decide), after_cons (by decide) (by decide), after_cons (by decide) (by decide),
      after_cons (by decide) (by decide), Or.inl rfl, trivial⟩
  · dsimp only [exE2, PE.fits, pathOK, PStep.ok]
    simp only [List.forall_mem_cons, PStep.preds, List.not_mem_nil, false_imp_iff, implies_true]
    decide
  · dsimp only [exE2, PE.lexable, pathCtx]
    simp only [List.forall_mem_cons, PStep.preds, List.not_mem_nil, false_imp_iff, implies_true]
    decide
example (pm : PfxMap) (fixed : Bool) :
    build false fixed .expr pm [46, 46, 47, 97, 43, 49] = .machine (exE2.tree.code ++ [.store]) :=
  C03_text_to_program_ascii exE2 exT3_ok.2.2.2.1 exT3_ok.2.2.2.2 exT3 exT3_ok.1 exT3_ok.2.1 exT3_ok.2.2.1 [] (by simp) pm
    (by intro i hi p l e; simp only [exT3, List.mem_cons, List.mem_nil_iff, or_false] at hi
        rcases hi with rfl | rfl | rfl | rfl | rfl <;> simp at e
        rw [e.1]; exact pfxOk_nil pm) fixed (by decide)

end YV.C03
