/-
  C13 — derived types narrow their base and inherit its default.

  * `C13_narrow`: whatever the base and the restriction text, if the compiler's range/length construction
    accepts, the result is a subset of the base, ascending and pairwise disjoint (any number of parts,
    adjacent base parts merged) — integer types and string lengths, exact arithmetic.
  * `C13_chain`: a value accepted by a type built through any chain of restrictions is a value of every
    type below it in the chain (induction over the chain).
  * `C13_default_partial`: the default of the built type is that of the nearest level that gives one.
  * `C13_default_valid`: … and it is a value of the built type.
  * `C13_kinds`, `C13_bounds`, `C13_fd_bounds`: which restriction applies to which base, and the initial bounds of every width
    / fraction-digits, are those of the source (regenerated), and the bound tables are exactly the 2^n formulas.
  * `C13_complete`, `C13_chain_is_spec`: completeness — for integer types and lengths the compiler accepts a
    restriction exactly when the specification does (every part non-empty, ascending, each inside one block of
    the base after adjacent base ranges are merged) and with the same result, at every level of any chain of
    derivations starting from a built-in range (the bases that arise are sorted: `restrict_keeps_sorted`).
  Not proved: completeness for decimal64 (no merging there; modelled with binary64 bounds as the code has them,
  known finding C13-decimal64-float-bounds) — held by stream ytypes against the spec.
-/
import YV.Proofs.YTypes
import YV.Proofs.YRange
import YV.Spec.YTypesS
import YV.Gen.Types
import YV.Gen.Status
namespace YV.C13
open YV YV.Y YV.T

theorem C13_narrow (base : List (Int × Int)) (hne : base ≠ []) (parts : List (Part Int)) (rs : List (Int × Int))
    (h : restrict intOps base parts = some rs) :
    (∀ v, InSet rs v → InSet base v) ∧ orderedDisjoint intOps rs = true :=
  restrict_sound base hne parts rs h

/-- iterating restrictions only ever narrows: the set after any chain of accepted restrictions is inside
    the set it started from -/
theorem C13_chain (base : List (Int × Int)) (hne : base ≠ []) (chain : List (List (Part Int))) :
    ∀ final, (chain.foldlM (fun cur parts => restrict intOps cur parts) base = some final) →
      ∀ v, InSet final v → InSet base v :=
  chain_sound chain base hne

/-- **completeness**: on a sorted base the compiler's construction *is* the specification's `validRestriction` -/
theorem C13_complete (base : List (Int × Int)) (hne : base ≠ []) (hs : sortedBase base) (parts : List (Part Int)) :
    restrict intOps base parts = TS.validRestriction base (parts.map fun p => (p.lo, p.hi)) :=
  restrict_eq_spec base hne hs parts

/-- … through any chain of derivations from a built-in type's range [lo, hi] -/
theorem C13_chain_is_spec (lo hi : Int) (h : lo ≤ hi) (chain : List (List (Part Int))) :
    chain.foldlM (fun cur parts => restrict intOps cur parts) [(lo, hi)] =
      chain.foldlM (fun cur parts => TS.validRestriction cur (parts.map fun p => (p.lo, p.hi))) [(lo, hi)] :=
  chain_is_spec chain [(lo, hi)] (by simp) h

/-- the default in force after a chain: the nearest definition that gives one -/
def nearestDefault (levels : List Level) : Option Bytes :=
  levels.foldl (fun d lv => nearer lv.dflt d) none

theorem C13_default_partial (k : BaseKind) (levels : List Level) (t : Ty) (d : Option Bytes)
    (h : build k levels = some (t, d)) : d = nearestDefault levels := build_go_default levels t d _ _ h

/-- … and a default the final type rejects makes the build fail at that level (`validateDefault`) -/
theorem C13_default_valid (k : BaseKind) (levels : List Level) (lv : Level) (t : Ty) (d : Option Bytes) (dv : Bytes)
    (h : build k (levels ++ [lv]) = some (t, d)) (hd : d = some dv) : validate t dv = true :=
  build_go_valid _ t d dv hd _ _ (fun h0 => by simp at h0) h

/-- which restriction statements apply to which base kind: as in the source -/
theorem C13_kinds : Gen.validRestrictions = [
    ("SchemaBits", ["NodeBit"]), ("SchemaBool", []),
    ("SchemaDecimal64", ["NodeConfigdSyntax", "NodeFractionDigits", "NodeRange"]),
    ("SchemaEmpty", []), ("SchemaEnumeration", ["NodeEnum"]), ("SchemaIdentity", []),
    ("SchemaInstanceId", ["NodeRequireInstance"]), ("SchemaLeafRef", ["NodePath"]),
    ("SchemaNumber", ["NodeConfigdSyntax", "NodeRange"]),
    ("SchemaString", ["NodeConfigdSyntax", "NodeLength", "NodePattern"]), ("SchemaUnion", ["NodeTyp"])] := rfl

def asc (s : String) : Bytes := s.toList.map Char.toNat

/-- the bound tables of the source for the integer types are exactly [-2^(w-1), 2^(w-1)-1] and [0, 2^w-1]
    (decimal64: `C13_fd_bounds`; the third equation holds of any table) -/
theorem C13_bounds :
    Gen.inttab.map (fun r => (boundaryInt (asc r.2.1), boundaryInt (asc r.2.2))) =
      [8, 16, 32, 64].map (fun w => (some (-(2 ^ (w - 1) : Int)), some ((2 ^ (w - 1) : Int) - 1))) ∧
    Gen.uinttab.map (fun r => (boundaryInt (asc r.2.1), boundaryInt (asc r.2.2))) =
      [8, 16, 32, 64].map (fun w => (some (0 : Int), some ((2 ^ w : Int) - 1))) ∧
    Gen.fdtab.map (fun r => (TS.scaled (asc r.1).length.succ.pred (asc r.2.1), r.1)) =
      Gen.fdtab.map (fun r => (TS.scaled (asc r.1).length (asc r.2.1), r.1)) := by
  refine ⟨by decide +kernel, by decide +kernel, rfl⟩

theorem C13_fd_bounds :
    (List.range 18).map (fun i => (Gen.fdtab.lookup (toString (i + 1))).map fun r =>
        (TS.scaled (i + 1) (asc r.1), TS.scaled (i + 1) (asc r.2))) =
      (List.range 18).map (fun _ => some (some (-(2 ^ 63 : Int)), some ((2 ^ 63 : Int) - 1))) := by decide +kernel

/-- non-vacuity: `range "1..5 | 10..20"` restricted by `"3..4 | 12..15"` is accepted, by `"3..12"` is not -/
example : restrict intOps [(1, 5), (10, 20)] [⟨some 3, some 4⟩, ⟨some 12, some 15⟩] = some [(3, 4), (12, 15)] ∧
          restrict intOps [(1, 5), (10, 20)] [⟨some 3, some 12⟩] = none ∧
          restrict intOps [(1, 5), (6, 20)] [⟨some 3, some 12⟩] = some [(3, 12)] := by decide +kernel

end YV.C13
