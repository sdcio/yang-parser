/-
  C10 — the parse tree mirrors the source and ignores trivia.

  Full statement: the text that spells a statement tree t, in any trivia layout and with any quoting of the
  arguments, parses to t (with positions).
  Proved: `C10_tree_is_source` for source trees of any depth and any number of sub-statements (the code's bound
  of 10 000 levels and '+' pieces, see C07, is not in the model), with arguments absent, unquoted or
  single-quoted pieces joined by '+' (double-quoted pieces: the decoding lemmas of C08); `C10_sep_blind`;
  `C10_lexer_reads_back` for texts of blank runs, block and line comments, unquoted words, double- and
  single-quoted strings, braces, semicolons and '+', with balanced braces; hence `C10_text_to_tree` and
  `C10_comment_invisible`.  That the lexer's stream ends properly is C07.  Stream ytree compares the real
  parser's tree walk with the model and the generated tree incl. line:column of every keyword on random
  trees × layouts × quotings.
-/
import YV.Proofs.YTree
import YV.Proofs.YLexR
namespace YV.C10
open YV YV.Y

theorem C10_sep_blind (seps rest : List Item) (h : AllSep seps) (s : PS) (f : Nat) :
    ∃ s' : PS, peekNS (f + seps.length) { s with items := seps ++ rest } =
      peekNS f { s' with items := rest } ∧ s'.items = rest :=
  peekNS_skip seps rest h s f

/-- **the tree mirrors the source, trivia changes nothing**: `Src` is a statement tree together with the
    separator items written before each of its tokens.  Parsing its items returns `src.tree`, which by
    definition reads only the keywords (value and position), the argument pieces and the sub-statements —
    none of the separator runs — so two spellings of one tree that differ in trivia parse to trees that
    differ in positions only. -/
theorem C10_tree_is_source (input : Bytes) (src : Src) (hw : src.wf) (seps : List Item) (eof : Item)
    (hseps : AllSep seps) (heof : eof.typ = .eof) :
    ∃ s', parseItems noChk input (src.items ++ (seps ++ [eof])) = .ok (src.tree, s') ∧ s'.items = [] :=
  parseItems_spec input src hw seps eof hseps heof

/-- `parse` is `parseItems` on what the lexer produced -/
theorem C10_parse_of_items (input : Bytes) (src : Src) (hw : src.wf) (seps : List Item) (eof : Item)
    (hseps : AllSep seps) (heof : eof.typ = .eof)
    (hlex : lex true input = some (src.items ++ (seps ++ [eof]))) :
    ∃ taken total, parse noChk true input = .ok src.tree taken total := by
  obtain ⟨s', h, _⟩ := parseItems_spec input src hw seps eof hseps heof
  rw [parse_of_lex hlex, h]
  exact ⟨_, _, rfl⟩

/-- non-vacuity: a nested source with a comment, a quoted concatenation and blanks is such a `Src` -/
def srcEx : Src :=
  .block [] ⟨.string, 0, [97]⟩ (.bare [⟨.sep, 1, [32]⟩] ⟨.string, 2, [98]⟩) [] ⟨.lbrace, 3, [123]⟩
    [.leaf [⟨.sep, 4, [32]⟩, ⟨.sep, 10, [32]⟩] ⟨.string, 11, [99]⟩
       (.quoted [⟨.sep, 12, [32]⟩] ⟨.quote, 13, [39]⟩ ⟨.string, 14, [120]⟩ ⟨.quote, 15, [39]⟩
          [([], ⟨.plus, 16, [43]⟩, [], ⟨.quote, 17, [39]⟩, ⟨.string, 18, [121]⟩, ⟨.quote, 19, [39]⟩)])
       [] ⟨.semi, 20, [59]⟩]
    [] ⟨.rbrace, 21, [125]⟩

example : lex true ("a b{ /*;*/ c 'x'+'y';}\n".toList.map Char.toNat) =
    some (srcEx.items ++ ([⟨.sep, 22, [10]⟩] ++ [⟨.eof, 23, []⟩])) := by decide +kernel
example : srcEx.wf := by
  simp only [srcEx, Src.wf, wfL, SArg.wf, moreWf, AllSep]; decide

def asc (s : String) : Bytes := s.toList.map Char.toNat
def visible (l : Option (List Item)) : Option (List (ITyp × Bytes)) :=
  l.map fun its => (its.filter (·.typ ≠ .sep)).map fun it => (it.typ, it.val)
/-- comments are not items: the lexer emits nothing for them (worked instance, both comment forms,
    a comment containing statement punctuation) -/
example : visible (lex true (asc "a /* ; { \" */ b; // c }\n")) = visible (lex true (asc "a b;\n")) := by decide +kernel

/-- **the lexer reads back the lexemes**: a text written as a well-formed sequence of lexemes with balanced
    braces is turned into exactly their items at their byte positions, then EOF; a comment yields no item, a
    blank run one separator item -/
theorem C10_lexer_reads_back (L : List Lx) (hok : okL 0 L) : lex true (renderL L) = some (itemsFrom 0 L) :=
  lex_render L hok

/-- **from bytes to tree**: a text whose lexemes spell a source tree (with any trivia) parses to that tree -/
theorem C10_text_to_tree (L : List Lx) (hok : okL 0 L) (src : Src) (hw : src.wf) (seps : List Item) (eof : Item)
    (hseps : AllSep seps) (heof : eof.typ = .eof) (h : itemsFrom 0 L = src.items ++ (seps ++ [eof])) :
    ∃ taken total, parse noChk true (renderL L) = .ok src.tree taken total :=
  C10_parse_of_items (renderL L) src hw seps eof hseps heof (by rw [lex_render L hok, h])

/-- what the parser can see of an item stream: kinds and values, not positions -/
def shape (l : List Item) : List (ITyp × Bytes) := l.map fun it => (it.typ, it.val)

theorem shape_itemsFrom (L : List Lx) : ∀ p q, shape (itemsFrom p L) = shape (itemsFrom q L) := by
  induction L with
  | nil => intro p q; rfl
  | cons x r ih =>
    intro p q
    simp only [itemsFrom, shape, List.map_append] at ih ⊢
    rw [ih (p + x.bytes.length) (q + x.bytes.length)]
    congr 1
    cases x <;> rfl

/-- **comments are trivia**: a block or line comment anywhere in the text changes no item, only positions -/
theorem C10_comment_invisible (L1 L2 : List Lx) (c : Lx)
    (hc : (∃ b, c = .blockC b) ∨ (∃ b, c = .lineC b) ∨ (∃ b, c = .lineE b)) (pos : Nat) :
    shape (itemsFrom pos (L1 ++ c :: L2)) = shape (itemsFrom pos (L1 ++ L2)) := by
  induction L1 generalizing pos with
  | nil =>
    rcases hc with ⟨b, rfl⟩ | ⟨b, rfl⟩ | ⟨b, rfl⟩ <;>
      simp only [List.nil_append, itemsFrom, Lx.items] <;> exact shape_itemsFrom L2 _ _
  | cons x r ih =>
    simp only [List.cons_append, itemsFrom, shape, List.map_append] at ih ⊢
    rw [ih]

theorem nextIs_cons (p : Nat → Bool) (c : Nat) (r : Bytes) : nextIs p (c :: r) ↔ p c = true := by
  simp [nextIs]

/-- non-vacuity: `m {/*x*/a;//c⏎}` is a well-formed lexeme sequence (with the text after each lexeme written out and
    `nextIs` read off its first byte, what is left is decidable) -/
example : okL 0 [.word [109], .ws [32], .lb, .blockC [120], .word [97], .semi, .lineC [99], .rb] := by
  simp only [okL, Lx.ok, renderL, Lx.bytes, List.cons_append, List.nil_append, nextIs_cons]
  decide

/-- non-vacuity (after the repair of `lexCommentLine`): a line comment may end the text without a line break,
    and the text lexes to the items of its statements followed by EOF -/
theorem okL_lineE : okL 0 [.word [109], .ws [32], .lb, .word [97], .semi, .rb, .ws [32], .lineE [101, 110, 100]] := by
  simp only [okL, Lx.ok, renderL, Lx.bytes, List.cons_append, List.nil_append, nextIs_cons]
  decide
example : okL 0 [.word [109], .ws [32], .lb, .word [97], .semi, .rb, .ws [32], .lineE [101, 110, 100]] := okL_lineE
example : lex true (renderL [.word [109], .ws [32], .lb, .word [97], .semi, .rb, .ws [32], .lineE [101, 110, 100]]) =
    some (itemsFrom 0 [.word [109], .ws [32], .lb, .word [97], .semi, .rb, .ws [32], .lineE [101, 110, 100]]) :=
  lex_render _ okL_lineE

end YV.C10
