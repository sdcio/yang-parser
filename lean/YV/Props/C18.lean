/-
  Props.C18 — structural data validation and default decoration are exact: the mandatory-node machinery, min / max
  elements and the unique check report what the specification (Spec.YDataS) requires; the decorated view is the
  specification's on every schema the compiler can build (`wfTop`, checked by the driver on every schema the
  stream feeds), keeps explicit data and is idempotent.
-/
import YV.Proofs.YData
import YV.Proofs.YUnique
import YV.Proofs.YDeco
namespace YV.Props.C18
open YV YV.Y YV.SC YV.D YV.DS

variable {τ : Type}

/-- **C18 (mandatory nodes).** For an existing parent with schema children `kids` and configured child
    names `cfg`, an error is reported iff the specification requires it: a mandatory leaf, a list or
    leaf-list with min-elements, or a mandatory choice is missing — looking through absent non-presence
    containers, into the cases that have something configured, and into choices nested in those cases. -/
theorem C18_mandatory (kids : List (SN τ)) (cfg path : List Tok) (e : DErr) :
    e ∈ checkMand kids cfg path ↔ e ∈ required cfg path kids := mem_checkMand_iff kids cfg path e

/-- below an absent non-presence container: the same errors in the same order -/
theorem C18_absent_container (path : List Tok) (kids : List (SN τ)) :
    hasMandKids path kids = required [] path kids := hasMandKids_eq path kids

/-- **C18 (min/max-elements).** `cardinalityInRange` rejects exactly the sizes outside [min, max]
    (max-elements is unbounded or positive: RFC 6020 §7.7.4) -/
theorem C18_cardinality (mn : Nat) (mx : Option Nat) (len : Nat) (h : mx ≠ some 0) :
    cardBad mn mx len = true ↔ (len < mn ∨ ∃ m, mx = some m ∧ len > m) := by
  rw [cardBad_eq mn mx len h]
  unfold cardViolated
  cases mx with
  | none => simp
  | some m => simp

/-- **C18 (explicit data is never altered).** In the decorated tree the original nodes sit unchanged —
    names, values, order — at the front of every child list, at every depth -/
theorem C18_explicit_kept (top : List (SN τ)) (root : DN) : restrictTo (decorate top root) root = root :=
  restrict_decorate top root

/-- **C18 (defaults, specification side).** a default is only ever instantiated for a node that is not
    configured, and it is the default of a data node of that parent -/
theorem C18_default_only_if_absent (cfg : List Tok) (kids : List (SN τ)) (x : DN) (h : x ∈ defaultsS cfg kids) :
    cfg.contains x.name = false ∧ ∃ n ∈ dataKids kids, n.name = x.name :=
  ⟨defaultsS_absent cfg x kids h, defaultsS_names cfg x kids h⟩

/-- **C18 (unique, the key).** different tuples of values never share a key — whatever bytes the values
    contain (the defect repaired in 8238fb7: joined by U+00B7, ("x·x","x") and ("x","x·x") collided) -/
theorem C18_unique_key_injective (vs ws : List Bytes) (h : encTuple vs = encTuple ws) : vs = ws :=
  encTuple_inj vs ws h

/-- **C18 (defaults in use).** The decorated view is exactly the specification's, for every well-formed schema and
    every data tree: the defaults of absent leaves under existing parents and non-presence containers, following
    the active or default case of choices, and nothing else. -/
theorem C18_defaults_in_use (top : List (SN τ)) (hwf : wfTop top = true) (root : DN) :
    decorate top root = decorateS top root :=
  decorate_eq_spec top (wfTop_sound hwf).1 (wfTop_sound hwf).2 root

/-- what is added at one parent: `yangDataChildren`'s defaults = the defaults in use -/
theorem C18_added_defaults (kids : List (SN τ)) (hwf : wfTop kids = true) (seen : List Tok) :
    addedDefaults kids seen = defaultsS seen kids :=
  addedDefaults_eq_spec kids (wfTop_sound hwf).1 (wfTop_sound hwf).2 seen

/-- **C18 (idempotence).** Decorating twice equals decorating once. -/
theorem C18_idempotent (top : List (SN τ)) (hwf : wfTop top = true) (root : DN) :
    decorate top (decorate top root) = decorate top root :=
  decorate_idem top (wfTop_sound hwf).1 (wfTop_sound hwf).2 root

/-- **C18 (unique).** the groups `checkUnique` reports are the classes (of two or more entries, in order of
    first occurrence) of entries whose resolved values agree leaf by leaf; entries lacking a leaf of the set
    are not examined -/
theorem C18_unique_by_tuple (kids : List (SN τ)) (entries : List DN) (u : List (List Tok)) :
    uniqueGroups kids entries u = groups (tupled kids entries u) := uniqueGroups_by_tuple kids entries u

/-- on unique sets whose paths end at leaves (what the compiler guarantees) the model's groups are the
    specification's — also for a leaf node that carries no value: it counts as a leaf that is not there -/
theorem C18_unique (kids : List (SN τ)) (entries : List DN) (u : List (List Tok))
    (h : ∀ e ∈ entries, ∀ p ∈ u, goodPath kids e.kids p) :
    uniqueGroups kids entries u = agreeing kids entries u := uniqueGroups_eq_agreeing kids entries u h

/-- joined by U+00B7, as before the repair, these two tuples get the same key; the length-prefixed key tells them apart -/
example : ([[120, 0xC2, 0xB7, 120], [120]].intersperse [0xC2, 0xB7]).flatten =
    ([[120], [120, 0xC2, 0xB7, 120]].intersperse [0xC2, 0xB7] : List Bytes).flatten := by decide
example : encTuple [[120, 0xC2, 0xB7, 120], [120]] ≠ encTuple [[120], [120, 0xC2, 0xB7, 120]] := by decide

/-! non-vacuity: container c (non-presence) { choice ch { mandatory; case a { leaf x (mandatory) ; leaf y } } } -/
def demoInner : List (SN Unit) :=
  [.choice [1] true none [.case [2] [.leaf [3] () none true, .leaf [4] () none false]]]
def demoKids : List (SN Unit) := [.container [99] false demoInner]

example : checkMand demoKids [] [] = [.choice [[99]]] := by
  simp [checkMand, demoKids, demoInner, missingOf.eq_def, choiceHasMand.eq_def, hasMandKids.eq_def]
example : checkMand demoInner [[4]] [[99]] = [.mand [[99]] [3]] := by decide +kernel
example : checkMand demoInner [[3]] [[99]] = [] := by decide +kernel

/-! non-vacuity of `wfTop`: container c { leaf a (default 7); choice ch (default case p) { case p { leaf x (default 8);
    choice in { case q { leaf y (default 9) } } } case r { leaf z (default 5) } } }: with nothing configured the default
    case gives x (the nested choice has no default case); with z configured only a is added -/
def demoDef : List (SN Unit) :=
  [.container [99] false
    [.leaf [1] () (some [55]) false,
     .choice [2] false (some [3])
       [.case [3] [.leaf [4] () (some [56]) false, .choice [5] false none [.case [6] [.leaf [7] () (some [57]) false]]],
        .case [8] [.leaf [9] () (some [53]) false]]]]

example : wfTop demoDef = true := by decide +kernel
def demoC : List (SN Unit) := match demoDef with | [.container _ _ k] => k | _ => []
example : (addedDefaults demoC []).map DN.name = [[1], [4]] := by decide +kernel
example : (addedDefaults demoC [[9]]).map DN.name = [[1]] := by decide +kernel
example : (addedDefaults demoC [[7]]).map DN.name = [[1], [4]] := by decide +kernel
example : (addedDefaults demoDef []).flatMap (fun d => d.kids.map DN.name) = [[1], [4]] := by decide +kernel

end YV.Props.C18
