/-
  Props.C17 — schema path validation walks the tree exactly.
-/
import YV.Proofs.YPath
namespace YV.Props.C17
open YV YV.Y YV.SC YV.SS

variable {τ : Type}

/-- acceptance, stated as a relation: which token paths walk a data view -/
inductive Accepts (sem : TySem τ) (ai : Bool) : V τ → List Tok → Prop
  | leafEnd {ty} : (sem.isEmpty ty = true ∨ ai = true) → Accepts sem ai (.leaf ty) []
  | leafValue {ty v} : valueOK sem ty v = true → Accepts sem ai (.leaf ty) [v]
  | leafListEnd {ty} : ai = true → Accepts sem ai (.leafList ty) []
  | leafListValue {ty v} : valueOK sem ty v = true → Accepts sem ai (.leafList ty) [v]
  | contEnd {pr kids} : (pr = true ∨ ai = true) → Accepts sem ai (.cont pr kids) []
  | contStep {pr kids h c t} : assoc h kids = some c → Accepts sem ai c t → Accepts sem ai (.cont pr kids) (h :: t)
  | listEnd {key kids} : ai = true → Accepts sem ai (.list key kids) []
  | listEntry {kty kids kv} : valueOK sem kty kv = true → Accepts sem ai (.list (some kty) kids) [kv]
  | listStep {kty kids kv h c t} : valueOK sem kty kv = true → assoc h kids = some c → Accepts sem ai c t →
      Accepts sem ai (.list (some kty) kids) (kv :: h :: t)

theorem walkS_ok_of_accepts (sem : TySem τ) (ai : Bool) {v : V τ} {p : List Tok} (h : Accepts sem ai v p) :
    ∀ k, walkS sem ai v k p = .ok := by
  intro k
  induction h generalizing k with
  | leafEnd h => rw [walkS_leaf]; exact if_pos (by rcases h with h | h <;> simp [h])
  | leafValue h => rw [walkS_leaf]; exact if_pos h
  | leafListEnd h => rw [walkS_leafList]; exact if_pos h
  | leafListValue h => rw [walkS_leafList]; exact if_pos h
  | contEnd h => rw [walkS_cont_nil]; rcases h with h | h <;> simp [h]
  | contStep ha _ ih => rw [walkS_cont_cons, ha]; exact ih _
  | listEnd h => rw [walkS_list_nil, if_pos h]
  | listEntry h => rw [walkS_list_cons]; simp [h]
  | listStep hv ha _ ih => rw [walkS_list_cons]; simp [hv, ha, ih]

theorem accepts_of_walkS_ok (sem : TySem τ) (ai : Bool) (p : List Tok) :
    ∀ (v : V τ) (k : Nat), walkS sem ai v k p = .ok → Accepts sem ai v p := by
  intro v k
  fun_induction walkS sem ai v k p <;> intro hw
  case case1 =>
    rcases leafS_ok hw with ⟨rfl, h⟩ | ⟨v, rfl, h⟩
    · exact .leafEnd (h.imp_left fun h => by simpa using h)
    · exact .leafValue h
  case case2 =>
    rcases leafS_ok hw with ⟨rfl, h⟩ | ⟨v, rfl, h⟩
    · exact .leafListEnd (h.resolve_left (by simp))
    · exact .leafListValue h
  case case4 h => exact .contEnd (by simpa using h)
  case case7 ha ih => exact .contStep ha (ih hw)
  case case8 h => exact .listEnd h
  case case12 hv => exact .listEntry (by simpa using hv)
  case case14 hv _ _ _ ha ih => exact .listStep (by simpa using hv) ha (ih hw)
  all_goals cases hw    -- the other branches of `walkS` do not accept

/-- **C17 (specification = relation).** The left-to-right judgement accepts exactly the paths that walk
    the data view. -/
theorem C17_spec_iff (sem : TySem τ) (ai : Bool) (v : V τ) (k : Nat) (p : List Tok) :
    walkS sem ai v k p = .ok ↔ Accepts sem ai v p :=
  ⟨accepts_of_walkS_ok sem ai p v k, fun h => walkS_ok_of_accepts sem ai h k⟩

/-- **C17 (the error names the first offending element).** When the specification rejects a path at
    index `k`, the tokens before `k` are themselves a path that walks the view (as an incomplete path):
    nothing before the reported element is wrong. -/
theorem C17_first_offender (sem : TySem τ) (ai : Bool) :
    ∀ (n : Nat) (p : List Tok), p.length = n → ∀ (v : V τ) (k0 k : Nat) (why : Why),
      walkS sem ai v k0 p = .bad k why →
        k0 ≤ k ∧ k ≤ k0 + p.length ∧ walkS sem true v k0 (p.take (k - k0)) = .ok :=
  fun _ p _ => walkS_bad sem ai p

/-- **C17.** For every schema, every token path and both modes, the walker over the compiled child maps
    (`tree.Validate` and the per-node `Validate` methods) gives the verdict of the specification over the
    data view — acceptance, and for a rejection the index of the offending token and the reason.  Choice
    and case nodes are transparent because the view has none. -/
theorem C17_walk (sem : TySem τ) (ai : Bool) (top : List (SN τ)) (p : List Tok) :
    proj (vtree sem ai top p) = walkTop sem ai top p := by
  cases p with
  | nil => rfl
  | cons h t =>
    rw [vtree, walkTop, assoc_viewKids]
    cases lookup h (dataKids top) with
    | none => rfl
    | some c => exact proj_vnode sem ai t c [h]

/-- the same with unions as leaf types (a value is accepted iff a member accepts it: `unionSem`): the theorem is about
    any type semantics -/
theorem C17_walk_union (sem : TySem τ) (ai : Bool) (top : List (SN (List τ))) (p : List Tok) :
    proj (vtree (unionSem sem) ai top p) = walkTop (unionSem sem) ai top p := C17_walk (unionSem sem) ai top p

/-- accepted by the code iff it walks the data view -/
theorem C17_accept_iff (sem : TySem τ) (ai : Bool) (top : List (SN τ)) (p : List Tok) :
    vtree sem ai top p = .ok () ↔ walkTop sem ai top p = .ok := by
  rw [← C17_walk]
  cases vtree sem ai top p with
  | ok u => exact iff_of_true rfl rfl
  | error e => exact iff_of_false nofun (proj_error_ne_ok e)

/-! non-vacuity: a schema with a leaf inside a case of a choice inside a container; the choice and case
    names are not path elements, the leaf is reached directly, a wrong value is reported at index 2 -/
def boolSem : TySem Bool := { accepts := fun _ v => v = [1], isEmpty := fun b => b }
def demo : List (SN Bool) :=
  [.container [10] false [.choice [20] false none [.case [30] [.leaf [40] false none false]]]]

example : vtree boolSem false demo [[10], [40], [1]] = .ok () := (C17_accept_iff ..).2 (by decide +kernel)
example : walkTop boolSem false demo [[10], [40], [2]] = .bad 2 .value := by decide +kernel
example : walkTop boolSem false demo [[10], [20]] = .bad 1 .unknown := by decide +kernel
example : walkTop boolSem false demo [[10]] = .bad 1 .incomplete ∧ walkTop boolSem true demo [[10]] = .ok := by
  decide +kernel

end YV.Props.C17
