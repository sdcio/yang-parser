/-
  Props.C20 — schema filters prune top-down and change nothing else.
-/
import YV.Proofs.YCompile
namespace YV.Props.C20
open YV YV.Y YV.SC YV.C

/-- **C20.** For every module body (any nesting of containers, lists, choices, cases; any placement of
    config / status / if-feature), every set of enabled features and every filter that looks at `config`
    (IsConfig, IsState and their Include / Exclude combinations): if the unfiltered compile succeeds, the
    filtered compile succeeds and yields exactly the unfiltered tree pruned top-down — every surviving node
    with the same attributes, no error for a choice whose default case went away with the choice. -/
theorem C20_filter_is_prune (f : Attr → Bool) (hf : CfgOnly f) (env : FeatEnv) (top : List A) (full : List CN)
    (hw : wfKids top = true) (h : compile keepAll env top = .ok full) :
    compile f env top = .ok (pruneKids f full) := by
  obtain ⟨hk, hn⟩ := compile_ok_iff.1 h
  exact compile_ok_iff.2 ⟨(build_prune_both hf env).2 top hw {} full hk, hn.sublist (flatNames_prune f full)⟩

/-- **C20 (rpcs and notifications).** The input and output of an rpc and a notification are trees of their own, built like
    the data tree (configuration and current at their roots, `buildSchemaTree`): for every list of such bodies, each one
    compiles under the filter to its unfiltered tree pruned top-down. -/
theorem C20_operation_trees (f : Attr → Bool) (hf : CfgOnly f) (env : FeatEnv) (bodies : List (List A))
    (hw : ∀ b ∈ bodies, wfKids b = true) (fulls : List (List CN))
    (h : bodies.mapM (compile keepAll env) = .ok fulls) :
    bodies.mapM (compile f env) = .ok (fulls.map (pruneKids f)) := by
  induction bodies generalizing fulls with
  | nil => cases h; rfl
  | cons b r ih =>
    rw [List.mapM_cons] at h ⊢
    obtain ⟨fb, hb, h⟩ := bind_eq_ok.1 h
    obtain ⟨fr, hr, h⟩ := bind_eq_ok.1 h
    cases h
    rw [C20_filter_is_prune f hf env b fb (hw b List.mem_cons_self) hb, ih (fun x hx => hw x (List.mem_cons_of_mem b hx)) fr hr]
    rfl

/-- the filters of compile_filters.go are of that form -/
theorem C20_filters_cfgOnly :
    CfgOnly (fun a => a.cfg) ∧ CfgOnly (fun a => !a.cfg) ∧ CfgOnly (fun _ => true) ∧ CfgOnly (fun _ => false) := by
  refine ⟨?_, ?_, ?_, ?_⟩ <;> intro a b h <;> simp [h]

/-- pruning is top-down: a node below a removed node is gone whatever it is -/
theorem C20_prune_topdown (f : Attr → Bool) (a : Attr) (kids r : List CN) (h : f a = false) :
    pruneKids f (.mk a kids :: r) = pruneKids f r := by
  simp [pruneKids, h]

/-! non-vacuity: container c { config true; choice ch { default ca; case ca { leaf x { config false } } } }
    compiles; the state-only filter removes c with everything below it -/
def demo : List A :=
  [.container [99] {} false [.choice [1] {} false (some [2]) [.case [2] {} [.leaf [3] { cfg := some false } false none]]]]

theorem demo_full : compile keepAll {} demo = .ok
    [.mk { kind := .container, name := [99], cfg := true, st := 0 }
      [.mk { kind := .choice, name := [1], cfg := true, st := 0, dflt := some [2] }
        [.mk { kind := .case, name := [2], cfg := true, st := 0 }
          [.mk { kind := .leaf, name := [3], cfg := false, st := 0 } []]]]] := by
  simp [compile, demo, buildKids, build, ignoredM, iffLoop, A.meta, inherit, getStatus, getConfig, keepAll, checkNames, firstDup,
    flatNames, flatCaseNames, caseKidNames, choiceMarks, kidMarks, mark, dataNames, dataCaseNames, CN.attr]

example : (compile keepAll {} demo).isOk = true := by rw [demo_full]; rfl
example : compile (fun a => !a.cfg) {} demo = .ok [] := by
  rw [C20_filter_is_prune _ C20_filters_cfgOnly.2.1 {} demo _ (by decide +kernel) demo_full]
  simp [pruneKids]

end YV.Props.C20
