/-
  C04 — exactly the supported XPath and leafref path syntax is accepted.
-/
import YV.Model.XTables
import YV.Gen.XPath
import YV.Gen.Status
import YV.Proofs.XGen
import YV.Proofs.XReject
import YV.Proofs.XFuncs
import YV.Proofs.XLeafref
import YV.Proofs.XText
namespace YV.C04
open YV YV.X YV.XL YV.XP

/-- the translator recognised every shape it was asked to extract -/
theorem C04_gen_complete : Gen.extractionFailures = [] := rfl

/-- the function table of the source is the one the models use (names, arities, argument kinds, return kinds) -/
theorem C04_fn_table : Gen.fnTable = XT.fnTableSorted := XT.fnTable_is_source

theorem C04_token_consts : Gen.tokenConsts = XT.tokenConsts := rfl
/-- in particular the two values the lexer model hard-codes -/
theorem C04_eof_err : Gen.tokenConsts.lookup "EOF" = some XL.EOF ∧ Gen.tokenConsts.lookup "ERR" = some XL.ERR := by decide +kernel

theorem C04_expr_token_map : Gen.exprTokenMap = XT.exprTokenMap := rfl
theorem C04_leafref_token_map : Gen.leafrefTokenMap = XT.leafrefTokenMap := rfl
theorem C04_patheval_token_map : Gen.pathEvalTokenMap = XT.pathEvalTokenMap := rfl
theorem C04_name_lists :
    Gen.nodeTypeNames = XT.nodeTypeNames ∧ Gen.axisNames = XT.axisNames ∧
    Gen.operatorNames = XT.operatorNames ∧ Gen.notOperatorAfter = XT.notOperatorAfter := ⟨rfl, rfl, rfl, rfl⟩

/-- the grammars the parser models transcribe are the grammars of the source, production by production,
    including which ProgBuilder method each action calls -/
theorem C04_expr_rules : Gen.exprRules = XT.exprRules := rfl
theorem C04_leafref_rules : Gen.leafrefRules = XT.leafrefRules := rfl

/-- goyacc reports no conflict for the current grammars, and the checked-in tables are fresh.  That LALR(1)
    then accepts exactly the context-free language, so that the recursive-descent transcription of Model.XParse is
    equivalent to the generated parser, is trusted, not proved. -/
theorem C04_yacc_no_conflicts :
    Gen.yaccConflicts = [("xpath.y", "0/0"), ("leafref.y", "0/0"), ("path_eval.y", "0/0")] := rfl
theorem C04_yacc_fresh : Gen.yaccFresh = [("xpath.go", "fresh"), ("path_eval.go", "fresh")] := rfl

/-- **C04 (unsupported constructs are rejected).** If a machine is built for a must / when (or path-eval)
    expression, then no token the lexer delivered before the end of the text is an axis name, an '@', a '//' or a
    node-type test: every expression using one of them is refused with an error (invariant over the eleven
    mutually recursive parser functions: an action sets parseErr as soon as such a token is read, and the result
    is a machine only if parseErr is empty). -/
theorem C04_unsupported_rejected (strict fixed : Bool) (g : Grammar) (hg : g ≠ .leafref) (pm : PfxMap) (bs : List Nat)
    (prog : List PI) (h : build strict fixed g pm bs = .machine prog) :
    ∃ pre rest, (lexAll strict g pm bs).1 = pre ++ rest ∧ (∀ t ∈ pre, bad t.tok = false) ∧
      (rest.head?.map (·.tok)).getD .eof = .eof :=
  build_rejects strict fixed g hg pm bs prog h

/-- **C04 (functions are the registered ones).** The lexer of the must / when and path-eval grammars hands out a
    function token only for a name that the function table (`C04_fn_table`: regenerated from symbol.go) maps to that
    function, and only before an opening parenthesis -/
theorem C04_function_tokens_are_registered (strict : Bool) (pm : PfxMap) (c : Rune) (s s' : LexSt) (f : Fn)
    (h : lexNameCommon strict pm c s = (.func f, s')) :
    lookupFn (constructToken c nameCharCommon "NAME" s).1 = some f ∧
      nnwsIs [chr '('] (constructToken c nameCharCommon "NAME" s).2 = true :=
  func_token_from_table strict pm c s s' f h

/-- **C04 (unknown functions are rejected).** A name before an opening parenthesis that the table does not hold — a
    near-miss spelling such as `starts_with`, a function of XPath this code base does not implement — is a lexer
    error (`current`, `deref` and the node-type names have tokens of their own) -/
theorem C04_unknown_function_rejected (strict : Bool) (pm : PfxMap) (c : Rune) (s : LexSt)
    (hop : canBeOperator (constructToken c nameCharCommon "NAME" s).2.prec = false)
    (hpar : nnwsIs [chr '('] (constructToken c nameCharCommon "NAME" s).2 = true)
    (hno : lookupFn (constructToken c nameCharCommon "NAME" s).1 = none)
    (hc : (constructToken c nameCharCommon "NAME" s).1 ≠ strR "current")
    (hd : (constructToken c nameCharCommon "NAME" s).1 ≠ strR "deref")
    (hn : isNodeType (constructToken c nameCharCommon "NAME" s).1 = false) :
    (lexNameCommon strict pm c s).1 = .err :=
  unknown_function_is_error strict pm c s hop hpar hno hc hd hn

/-- non-vacuity: the table knows `starts-with` and neither `starts_with` nor `lang` -/
example : (lookupFn (strR "starts-with")).isSome = true ∧ lookupFn (strR "starts_with") = none ∧
    lookupFn (strR "lang") = none := by decide +kernel

/-- what the lexer makes of the characters in question ('@' and '//'; axis and node-type names are recognised by
    `lexNameCommon` before '::' / '(') -/
theorem C04_at_token (strict : Bool) (pm : PfxMap) (s : LexSt) : (lexTok strict .expr pm (chr '@') s).1 = .ch (chr '@') :=
  congrArg Prod.fst (lexTok_sym strict pm (chr '@') s rfl)
theorem C04_dblslash_token (strict : Bool) (pm : PfxMap) (s : LexSt) (h : (next s).1 = chr '/') :
    (lexTok strict .expr pm (chr '/') s).1 = .dblslash := by
  -- on the literal '/' the earlier tests of `lexTok` are decided by evaluation
  have e : lexTok strict .expr pm (chr '/') s =
      if (next s).1 = chr '/' then (.dblslash, (next s).2) else (.ch (chr '/'), setPeek (next s).2 (next s).1) := rfl
  rw [e, if_pos h]
example : bad (.ch (chr '@')) = true ∧ bad .dblslash = true ∧ bad (.axisname []) = true ∧ bad (.nodetype []) = true :=
  ⟨rfl, rfl, rfl, rfl⟩

/-- **C04 (leafref: exactly RFC 6020 path-arg).**  The leafref parser accepts a token list iff it is — up to the
    end-of-input token — the token sequence of a tree of the RFC 6020 grammar (`LPath`: absolute-path =
    1*("/" (node-identifier *path-predicate)); relative-path = 1*(".." "/") descendant-path; descendant-path =
    node-identifier [*path-predicate absolute-path]; path-predicate = "[" node-identifier "=" function "(" ")" "/"
    1*(".." "/") *(node-identifier "/") node-identifier "]"), for every token list: any number of steps,
    predicates and "..", and nothing else.  (That the function is `current` is the lexer's: the leafref lexer
    makes a function token of no other name.) -/
theorem C04_leafref_exact (toks : List LexedTok) :
    (∃ s', parseLeafrefToks toks = .ok s') ↔
      ∃ (p : LPath) (rest : List Tok), toks.map (·.tok) = p.toks ++ rest ∧ rest.headD .eof = .eof := by
  constructor
  · rintro ⟨s', h⟩
    exact parse_sound toks s' h
  · rintro ⟨p, rest, h1, h2⟩
    obtain ⟨s', h, _⟩ := parse_complete p toks rest h1 h2
    exact ⟨s', h⟩

/-- … and the program of an accepted path is the one the grammar actions emit for that tree -/
theorem C04_leafref_program (toks : List LexedTok) (s' : PSt) (h : parseLeafrefToks toks = .ok s') :
    ∃ p : LPath, s'.out.reverse = p.code ++ [.evalLocPath, .store] ∧
      ∃ rest, toks.map (·.tok) = p.toks ++ rest :=
  parse_program toks s' h

/-- non-vacuity: ../../a[k = current()/../b]/c  is a tree -/
def exLref : LPath :=
  .rel 1 ([], [97]) (some ([⟨([], [107]), .current, 0, [], ([], [98])⟩], ⟨([], [99]), []⟩, []))
example : exLref.toks =
    [.dotdot, .ch (chr '/'), .dotdot, .ch (chr '/'), .nametest [] [97], .ch (chr '['), .nametest [] [107], .eq,
     .func .current, .ch (chr '('), .ch (chr ')'), .ch (chr '/'), .dotdot, .ch (chr '/'), .nametest [] [98],
     .ch (chr ']'), .ch (chr '/'), .nametest [] [99]] := rfl

/-- **C04 (must / when: the operator fragment is accepted).**  Every text of the fragment of `C03_text_to_program`
    compiles: `build` returns a machine, not an error. -/
theorem C04_fragment_accepted (e : PE) (hf : e.fits 0) (hn : e.lexable) (items : List Item)
    (hi : items.map (·.tok) = e.toks) (hok : ∀ i ∈ items, i.ok) (hgl : glued items) (lead : List Rune)
    (hl : ∀ x ∈ lead, isWS x = true) (pm : PfxMap)
    (hpf : ∀ i ∈ items, ∀ p l, i.tok = .nametest p l → pfxOk pm p = true) (fixed : Bool) (bs : List Nat)
    (hbs : (decode bs).map (·.cp) = lead ++ renderX items) :
    ∃ prog, build false fixed .expr pm bs = .machine prog :=
  ⟨_, text_to_program e hf hn items hi hok hgl lead hl pm hpf fixed bs hbs⟩

end YV.C04
