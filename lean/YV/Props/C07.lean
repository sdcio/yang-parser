/-
  C07 — YANG parsing is total and leaves nothing running.

  Full statement: for every byte string, `parse` returns `.ok` with a root or `.err l c` with l ≥ 1 and
  (l,c) inside the text, never `.diverge`/`.fuel`, and the lexer's item stream is fully consumed or drained.
  Proved: the repaired lexer terminates on every input and its stream ends with an EOF or Error item
  (`C07_lex_total`: the goroutine's termination, every state consumes input or stops); the parser is total
  (`C07_parse_total`: each step that recurses has received at least one item, so the fuel `parse` supplies, the
  number of items plus two, cannot run out); the reported line lies inside the text (`C07_error_line_in_text`).
  Not proved (held by the correspondence streams yfuzz: all texts ≤3/4 bytes over a 16-byte alphabet, every
  prefix of generated modules, random bytes; watchdog + goroutine dump on the real code): the column bound;
  that the Go runtime reaps the drained goroutine is observed, not proved.
-/
import YV.Proofs.YTotal
import YV.Gen.Parse
import YV.Model.YTables
namespace YV.C07
open YV YV.Y

theorem C07_lex_total (input : Bytes) :
    ∃ l, lex true input = some l ∧ ∃ init last, l = init ++ [last] ∧ (last.typ = .eof ∨ last.typ = .error) :=
  lex_total input

/-- a corollary of totality (`parse_total`, below as `C07_parse_total`): `.diverge` is neither of its two outcomes -/
theorem C07_parse_no_diverge_partial (chk : Stmt → Bool) (input : Bytes) :
    (match parse chk true input with | .diverge => False | _ => True) := by
  rcases parse_total chk input with ⟨_, _, _, h⟩ | ⟨_, _, _, _, h⟩ <;> rw [h] <;> trivial

/-- **totality of parsing**: every input, every statement check: a root or an error with a position -/
theorem C07_parse_total (chk : Stmt → Bool) (input : Bytes) :
    (∃ root taken total, parse chk true input = .ok root taken total) ∨
    (∃ l c taken total, parse chk true input = .err l c taken total) := parse_total chk input

/-- the line an error names is a line of the text: between 1 and the number of line feeds plus one -/
theorem C07_error_line_in_text (input : Bytes) (pos : Nat) :
    1 ≤ (lineCol input pos).1 ∧ (lineCol input pos).1 ≤ 1 + (input.filter (· = 10)).length := by
  exact ⟨Nat.le_add_right .., Nat.add_le_add_left ((List.take_sublist pos input).filter _).length_le 1⟩

def asc (s : String) : Bytes := s.toList.map Char.toNat
/-- the defect that was repaired, as a theorem about the unrepaired state machine: a text that ends inside
    an unquoted word makes it spin forever (parse.Parse("x", "module", nil) never returned) -/
theorem C07_unrepaired_diverges : lex false (asc "module") = none := by decide +kernel

example : (lex true (asc "a b;")).isSome = true := by decide +kernel

/-- **C07 (the stack).** The statement parser recurses once per level of nesting and once per '+' piece; the model is a
    fuelled function and has no stack to exhaust.  What keeps the code's recursion bounded are two constants of
    parse/parse.go: they are there (regenerated on every run; their absence is a failed extraction) and they are the
    values the driver predicts stream ydeep with. -/
theorem C07_recursion_bounds_are_source : Gen.parseLimits = YT.parseLimits := rfl

end YV.C07
