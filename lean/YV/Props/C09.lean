/-
  C09 — statement grammar: cardinality, ordering and argument syntax are enforced.

  * `C09_gen_complete`: the regeneration from /repo met nothing it could not extract.
  * `C09_tables_are_source`: the cardinality table, keyword table, NodeType order, argument-kind switch,
    range predicates and checkModule case lists the model uses are those of /repo (regenerated every run).
  * `C09_table_is_rfc`: every cell of the code's table for an RFC 6020 statement is the cell of the RFC's
    substatement tables (Spec.YRfc, written from the RFC), and every RFC cell is present — up to the listed
    slack cells (uses/augment, uses/refine, list/key, deviation/deviate).
  * `C09_keywords`: exactly the RFC 6020 keywords map to a node type of their own.
  * `C09_check`: the cardinality checker accepts iff every table cell is respected and every child is permitted.
  * `C09_order`, `C09_revs`: section order = non-decreasing sections; revisions = valid calendar dates,
    strictly descending.
  * `C09_range_arg`, `C09_length_arg`: the range / length check of the model accepts exactly the texts of the ABNF
    scanner of Spec.YRange (proved for every text in Proofs.YRangeLex), with the keywords on their sides.
  The other argument lexers: after the repairs the code implements the RFC ABNF rules directly; the model's `argOK`
  is that ABNF (model = spec by definition) and is tied to the code by the exhaustive/edited probe stream.
  Vendor vocabularies (configd:*, opd:*) are modelled as they are and excluded from the RFC comparison.
-/
import YV.Model.YCheck
import YV.Proofs.YRangeLex
import YV.Spec.YRfc
import YV.Gen.Parse
import YV.Gen.Status
namespace YV.C09
open YV YV.Y YV.YC

theorem C09_gen_complete : Gen.extractionFailures = [] := rfl

theorem C09_tables_are_source :
    Gen.nodeTypes = YT.nodeTypes ∧ Gen.nodeNames = YT.nodeNames ∧ Gen.cardinalities = YT.cardinalities ∧
    Gen.argKinds = YT.argKinds ∧ Gen.rangePreds = YT.rangePreds ∧ Gen.moduleSections = YT.moduleSections :=
  ⟨rfl, rfl, rfl, rfl, rfl, rfl⟩

/-- keyword of a node-type constant; the four deviate variants are one RFC keyword -/
def kwOfConst (c : String) : String :=
  if c ∈ ["NodeDeviateAdd", "NodeDeviateDelete", "NodeDeviateReplace", "NodeDeviateNotSupported", "NodeDeviate"] then "deviate"
  else (YT.nodeNames.lookup c).getD ""

def rowConforms (pkw : String) (codeRow : List (String × String × String)) (specRow : List (String × String)) : Bool :=
  (codeRow.all fun (c, s, e) =>
      let kw := kwOfConst c
      !(YR.keywords.contains kw) || (YR.admitted pkw kw).contains (s ++ e)) &&
  (specRow.all fun (kw, _) => codeRow.any fun (c, _, _) => kwOfConst c = kw)

def tableConforms : Bool :=
  YR.table.all fun (pkw, specRow) =>
    match YT.nodeNames.find? (fun p => p.2 = pkw) with
    | some (pc, _) => rowConforms pkw ((YT.cardinalities.lookup pc).getD []) specRow
    | none => false

theorem C09_table_is_rfc : tableConforms = true := by decide +kernel

/-- every RFC keyword has a node type, and no other unprefixed keyword has (apart from the internal names
    the check rejects: "unknown", "deviate-*" and the range markers containing blanks) -/
def keywordsConform : Bool :=
  YR.keywords.all (fun kw => YT.nodeNames.any fun p => p.2 = kw) &&
  YT.nodeNames.all fun (_, kw) =>
    YR.keywords.contains kw || kw.toList.contains ':' || kw.toList.contains ' ' || kw = "unknown" ||
      "deviate-".toList.isPrefixOf kw.toList

theorem C09_keywords : keywordsConform = true := by decide +kernel

/-- what the table demands of the children of a statement of type `t`: every cell respected (a minimum of
    one is met, a maximum of one is not exceeded) and every child permitted (extension statements always are,
    those the package knows by name included), and a deviation has a deviate statement of some kind -/
def SubstmtsOk (t : String) (kids : List String) : Prop :=
  (∀ c s e, (c, s, e) ∈ (YT.cardinalities.lookup t).getD [] →
      (s = "1" → ¬ count kids c = 0) ∧ (e = "1" → count kids c ≤ 1)) ∧
  (∀ c ∈ kids, (c = "NodeUnknown" ∨ c = "NodeDataDef" ∨ isPrefixedType c = true) ∨
      ∃ s e, (c, s, e) ∈ (YT.cardinalities.lookup t).getD []) ∧
  (t = "NodeDeviation" → ∃ c ∈ kids, isDeviateNode c = true)

theorem C09_check (t : String) (kids : List String)
    (ht : ¬ (t = "NodeUnknown" ∨ t = "NodeRefine" ∨ isDeviateNode t = true)) :
    cardOK t kids = true ↔ SubstmtsOk t kids := by
  -- conjunct by conjunct: the cells, the permitted children, the deviate statement
  unfold cardOK SubstmtsOk
  rw [if_neg (by simpa [or_assoc] using ht)]
  simp only [Bool.and_eq_true, List.all_eq_true, and_assoc, Prod.forall]
  refine and_congr (forall₃_congr fun c s e => imp_congr_right fun _ => ?_) (and_congr (forall₂_congr fun c _ => ?_) ?_)
  · simp [Nat.lt_one_iff, ← Decidable.imp_iff_not_or]
  · simp [or_assoc]
  · simp [← Decidable.imp_iff_not_or]

/-- sections in order: header ≤ linkage ≤ meta ≤ revision ≤ body along the substatements (extensions ignored) -/
def InOrder : Nat → List Nat → Prop
  | _, [] => True
  | p, s :: r => p ≤ s ∧ InOrder s r

def sectionsOf (kids : List String) : List Nat := (kids.map sectionOf).filter (· ≠ 9)

theorem sectionsOf_cons (c : String) (r : List String) :
    sectionsOf (c :: r) = if sectionOf c = 9 then sectionsOf r else sectionOf c :: sectionsOf r := by
  by_cases h : sectionOf c = 9 <;> simp [sectionsOf, h]

theorem sectionsOK_iff (prev : Nat) (kids : List String) :
    sectionsOK prev kids = true ↔ InOrder prev (sectionsOf kids) := by
  -- the branches of `sectionsOK`: 1 no statement left; 2 an extension statement; 3 a header statement; 4 any other
  fun_induction sectionsOK prev kids with
  | case1 => exact iff_of_true rfl trivial
  | case2 prev c r sct h9 ih => rwa [sectionsOf_cons, if_pos h9]
  | case3 prev c r sct h9 h0 ih =>
    rw [sectionsOf_cons, if_neg h9, Bool.and_eq_true, decide_eq_true_eq, ih]
    show _ ↔ prev ≤ sct ∧ InOrder sct _
    rw [h0, Nat.le_zero]
    exact and_congr_right fun h => by rw [h]
  | case4 prev c r sct h9 h0 ih =>
    rw [sectionsOf_cons, if_neg h9, Bool.and_eq_true, decide_eq_true_eq, ih]
    rfl

theorem C09_order (kids : List String) : sectionsOK 0 kids = true ↔ InOrder 0 (sectionsOf kids) :=
  sectionsOK_iff 0 kids

/-- revision dates: each a calendar date, each strictly earlier than the one before -/
def Descending : Option Nat → List Bytes → Prop
  | _, [] => True
  | p, d :: r => calendarOK d = true ∧ (∀ q, p = some q → dateKey d < q) ∧ Descending (some (dateKey d)) r

theorem C09_revs (prev : Option Nat) (ds : List Bytes) : revisionsOK prev ds = true ↔ Descending prev ds := by
  fun_induction revisionsOK prev ds with
  | case1 => exact iff_of_true rfl trivial
  | case2 prev d r ih =>
    rw [Bool.and_eq_true, Bool.and_eq_true, ih, and_assoc]
    refine and_congr_right fun _ => and_congr_left fun _ => ?_
    cases prev <;> simp

/-- **C09 (range arguments).** The range check of the model (parse/arg.go: split at "|", split at "..", trim optsep off
    every boundary — white space inside a boundary stays and makes it invalid) accepts exactly the texts of the RFC 6020
    ABNF read as a scanner (`Spec.YRange`: optsep around "|" and ".." and nowhere else), with `min` only before and `max`
    only after "..".  For every text. -/
theorem C09_range_arg (s : Bytes) : argOK "RangeArg" s = (YS.rangeArgOK s && sidesOK s) := by
  -- the `match` on the kind is a chain of tests `kind = "…"`: unfolded, each is decided on the two literals (reducing
  -- the `match` as a whole is slow to check)
  unfold argOK argOK.match_1
  simp only [String.reduceEq, ↓reduceDIte]
  rw [rangeLikeOK_eq numBoundaryOK numBoundaryOK_min numBoundaryOK_max, rangeArgOK_eq]

/-- **C09 (length arguments).** the same for lengths: boundaries are non-negative integers below 2^64 -/
theorem C09_length_arg (s : Bytes) : argOK "LengthArg" s = (YS.lengthArgOK s && sidesOK s) := by
  unfold argOK argOK.match_1
  simp only [String.reduceEq, ↓reduceDIte]
  rw [rangeLikeOK_eq _ (by rw [msg_min]; decide) (by rw [msg_max]; decide), lengthArgOK_eq]
  rfl

/-! non-vacuity: blanks around the separators are optsep, blanks inside a number are not -/
example : YS.rangeArgOK (msg "1 .. 5 | 7") = true ∧ YS.rangeArgOK (msg "1 0..20") = false ∧
          YS.rangeArgOK (msg "1.5..2.5") = true ∧ YS.rangeArgOK (msg "m in..5") = false ∧
          YS.lengthArgOK (msg "0..18446744073709551615") = true ∧ YS.lengthArgOK (msg "18446744073709551616") = false := by
  decide +kernel

example : sectionsOK 0 ["NodeNamespace", "NodePrefix", "NodeImport", "NodeDescription", "NodeRevision", "NodeLeaf"] = true := by decide +kernel
example : sectionsOK 0 ["NodeNamespace", "NodeLeaf", "NodeImport"] = false := by decide +kernel
example : cardOK "NodeLeaf" ["NodeTyp", "NodeDescription"] = true ∧ cardOK "NodeLeaf" ["NodeDescription"] = false ∧
          cardOK "NodeLeaf" ["NodeTyp", "NodeTyp"] = false ∧ cardOK "NodeLeaf" ["NodeTyp", "NodeKey"] = false := by decide +kernel
example : cardOK "NodeLeaf" ["NodeTyp", "NodeConfigdHelp", "NodeOpdCommand"] = true ∧
          cardOK "NodeDeviation" ["NodeDescription"] = false ∧ cardOK "NodeDeviation" ["NodeDeviateAdd", "NodeDeviateAdd"] = true := by
  decide +kernel

end YV.C09
