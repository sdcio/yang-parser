/-
  C16 — type validation accepts exactly the YANG value space.  One iff per type.

  integers / unsigned / strings / boolean / empty / enumeration: the model's `validate` is unfolded into the
  lexical condition, the exact width bounds and the range set.  decimal64: the lexical condition and the exact
  64-bit bounds are proved against scaled integers (`C16_dec64_lex`); the comparison with *ranges* is done by
  the code in binary64, which is adequate away from the 64-bit bounds and not near them (known finding
  C16-decimal64-float-ranges; witness `C16_dec64_float_witness`).  Patterns: a string is accepted iff its
  length fits and every pattern of every level matches the whole string, where "matches" is membership in the
  language of the expression (`C16_pattern`, `C16_pattern_lang`; the expressions are the regular fragment the
  generators use — RE2 itself is trusted on it).  identityref: the accepted values are exactly the identities
  whose chain of `base` statements leads up to the base (`C16_identityref`).  union: some member accepts
  (`C16_union`).  What a rejection carries: `C16_reject_num`, `C16_reject_str`.
-/
import YV.Spec.YTypesS
import YV.Proofs.YValues
import YV.Proofs.YDec
namespace YV.C16
open YV YV.Y YV.T YV.TS YV.V YV.VS

theorem C16_int (w : Nat) (rs : List (Int × Int)) (s : Bytes) :
    validate (.int w rs) s = true ↔
      ∃ v, parseSigned s = some v ∧ -(2 ^ (w - 1) : Int) ≤ v ∧ v ≤ 2 ^ (w - 1) - 1 ∧ inRanges rs v = true := by
  simp only [validate]
  cases h : parseSigned s with
  | none => simp
  | some v => simp [and_assoc]

/-- **C16 (unsigned).** accepted iff the text is an integer — optional sign, digits — whose value lies in
    [0, 2^w − 1] and in the range set: "+5" and "-0" are such texts, "-1" is not -/
theorem C16_uint (w : Nat) (rs : List (Int × Int)) (s : Bytes) :
    validate (.uint w rs) s = true ↔
      ∃ v, parseSigned s = some v ∧ 0 ≤ v ∧ v ≤ 2 ^ w - 1 ∧ inRanges rs v = true := by
  simp only [validate]
  by_cases hd : allDigits (uintDigits s) = true
  · obtain ⟨hp, _⟩ := (uintDigits_spec s _).1 ⟨hd, rfl⟩
    simp [hd, hp, Int.natCast_nonneg]
  · simp only [hd, Bool.false_eq_true, if_false, false_iff, not_exists, not_and]
    exact fun v hv h0 => absurd ((uintDigits_spec s v).2 ⟨hv, h0⟩).1 hd

theorem C16_bool (s : Bytes) : validate .bool s = true ↔ (s = msg "true" ∨ s = msg "false") := by
  simp [validate]

theorem C16_empty (s : Bytes) : validate .empty s = true ↔ s = [] := by
  simp [validate]

theorem C16_enum (names : List Bytes) (s : Bytes) : validate (.enum names) s = true ↔ s ∈ names := by
  simp [validate]

/-- string length is counted in characters (runes), and must lie in the length set -/
theorem C16_string (lens : List (Int × Int)) (n : Nat) (s : Bytes) :
    validate (.str lens n) s = true ↔ inRanges lens (Int.ofNat (XL.decode s).length) = true := by
  simp [validate, utf8Len]

def asc (s : String) : Bytes := s.toList.map Char.toNat

/-- the float comparison cannot separate the upper 64-bit bound from its successor (fraction-digits 3):
    the witness of known finding C16-decimal64-float-ranges, on the model -/
theorem C16_dec64_float_witness :
    sfOfDecimalText (asc "9223372036854775.808") = sfOfDecimalText (asc "9223372036854775.807") := by decide +kernel

/-- **C16 (decimal64, lexical form and 64-bit bounds).** For every fraction-digits 1..18 and every text: the check
    of `validateDecimal64String` (integer part and zero-padded fraction part against quotient and remainder of
    2^63-1 by 10^fd) passes iff the text is a decimal with at most fd fraction digits whose value, scaled by
    10^fd, lies in [-2^63, 2^63-1] -/
theorem C16_dec64_lex (fd : Nat) (h1 : 1 ≤ fd) (h2 : fd ≤ 18) (s : Bytes) :
    dec64LexOK fd s = true ↔ ∃ v, scaled fd s = some v ∧ -(2 ^ 63 : Int) ≤ v ∧ v ≤ 2 ^ 63 - 1 :=
  dec64LexOK_iff fd h1 s

/-- … while the lexical / 64-bit check, done on scaled integers, does separate them -/
theorem C16_dec64_lex_witness :
    dec64LexOK 3 (asc "9223372036854775.807") = true ∧ dec64LexOK 3 (asc "9223372036854775.808") = false ∧
    dec64LexOK 3 (asc "9223372036854776") = false ∧ dec64LexOK 3 (asc "-9223372036854775.808") = true ∧
    dec64LexOK 3 (asc "-9223372036854775.809") = false ∧ dec64LexOK 3 (asc "1.2345") = false := by decide +kernel

example : validate (.int 8 [(-128, 127)]) (asc "+127") = true ∧ validate (.int 8 [(-128, 127)]) (asc "128") = false ∧
          validate (.uint 8 [(0, 255)]) (asc "+5") = true ∧ validate (.str [(1, 2)] 0) [0xC3, 0xA9, 0xC3, 0xA9] = true := by decide +kernel

/-- **C16 (strings with patterns).** accepted iff the length fits and every pattern of every level of the
    typedef chain matches the whole string (implicit anchoring) -/
theorem C16_pattern (t : Ty) (len : EI) (pats : List (Re × EI)) (s : Bytes) :
    check (.str t len pats) s = none ↔
      validate t s = true ∧ ∀ p ∈ pats, reMatch p.1 ((XL.decode s).map (·.cp)) = true := by
  rw [check, ← firstFailing_none]
  cases validate t s with
  | false => exact ⟨nofun, nofun⟩
  | true => cases firstFailing ((XL.decode s).map (·.cp)) pats <;> simp

/-- … and "matches" is membership in the language the expression denotes -/
theorem C16_pattern_lang (r : Re) (s : List Nat) : reMatch r s = true ↔ Lang r s := reMatch_iff r s

/-- **C16 (identityref).** with the compiler's fuel (the number of identities) or any other: the values
    accepted are the renderings of exactly the identities derived, at any depth, from the base -/
theorem C16_identityref (ids : List Ident) (lm : Bytes) (f : Nat) (b : Bytes × Bytes) (s : Bytes) :
    check (.ident (identVals ids lm f b)) s = none ↔ ∃ i ∈ ids, render lm i = s ∧ up ids f i b = true := by
  rw [check, ← mem_identVals_iff, ← List.contains_iff_mem]
  cases (identVals ids lm f b).contains s <;> simp

/-- **C16 (union).** a union accepts iff some member accepts -/
theorem C16_union (ms : List VT) (s : Bytes) : check (.union ms) s = none ↔ ∃ m ∈ ms, check m s = none := by
  rw [check, ← anyAccepts_iff]
  cases anyAccepts ms s <;> simp

/-- **C16 (what a rejection carries, numbers).** the custom message of the effective range statement when
    it defines one, its app-tag or the default "range-violation" -/
theorem C16_reject_num (t : Ty) (ei : EI) (s : Bytes) (r : Rej) :
    check (.num t ei) s = some r → validate t s = false ∧ r.msg = ei.msg ∧ r.tag = ei.tag.getD "range-violation" := by
  rw [check]
  cases validate t s with
  | false => intro h; cases h; exact ⟨rfl, rfl, rfl⟩
  | true => nofun

/-- **C16 (what a rejection carries, strings).** either the length is violated and the error is the length
    statement's, or some pattern does not match and the error is that pattern's -/
theorem C16_reject_str (t : Ty) (len : EI) (pats : List (Re × EI)) (s : Bytes) (r : Rej) :
    check (.str t len pats) s = some r →
      (validate t s = false ∧ r.msg = len.msg ∧ r.tag = len.tag.getD "length-violation") ∨
      (validate t s = true ∧ ∃ re ei, (re, ei) ∈ pats ∧ reMatch re ((XL.decode s).map (·.cp)) = false ∧
        r.msg = ei.msg ∧ r.tag = ei.tag.getD "pattern-violation") := by
  rw [check]
  cases validate t s with
  | false => intro h; cases h; exact .inl ⟨rfl, rfl, rfl⟩
  | true =>
    cases hf : firstFailing ((XL.decode s).map (·.cp)) pats with
    | none => nofun
    | some ei =>
      intro h; cases h
      obtain ⟨re, hm, hn⟩ := firstFailing_some _ _ _ hf
      exact .inr ⟨rfl, re, ei, hm, hn, rfl, rfl⟩

/-! non-vacuity: the anchoring matters — `a|b` accepts "a" and "b" and not "ab" -/
example : reMatch (.alt (.chr 97) (.chr 98)) [97] = true ∧ reMatch (.alt (.chr 97) (.chr 98)) [97, 98] = false := by decide
example : let ids : List Ident := [⟨[1], [10], none⟩, ⟨[1], [11], some ([1], [10])⟩, ⟨[2], [12], some ([1], [11])⟩]
    identVals ids [1] 3 ([1], [10]) = [[11], [2, 58, 12]] := by decide +kernel

end YV.C16
