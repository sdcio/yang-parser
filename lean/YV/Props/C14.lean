/-
  Props.C14 — config, status, if-feature and deviations shape the tree as specified.
-/
import YV.Proofs.YCfg
import YV.Proofs.YDev
namespace YV.Props.C14
open YV YV.Y YV.SC YV.C YV.CS

/-- **C14 (config false and status are inherited).** Whatever the module body, the features, the filter:
    in every tree the compiler builds, a node below a `config false` node is `config false`, and the status
    of a node is never better than its parent's.  (`config true` beneath `config false` and a status that
    overrides the parent's are the two errors `getConfig` / `getStatus` raise — `C14_config_true_rejected`.) -/
theorem C14_shape (f : Attr → Bool) (env : FeatEnv) (top : List A) (cs : List CN) (h : compile f env top = .ok cs) :
    wellShapedKids true 0 cs = true :=
  (build_shape_both f env).2 top {} cs (compile_ok_iff.1 h).1

theorem C14_config_true_rejected (m : Meta) (h : m.cfg = some true) :
    getConfig m false = .error "config true node can't have a config false parent" := by
  simp [getConfig, h]

theorem C14_status_override_rejected (m : Meta) (s inh : Nat) (h : m.st = some s) (hlt : s < inh) :
    getStatus m inh = .error "Cannot override status of parent" := by
  simp [getStatus, h, hlt]

/-- **C14 (presence).** A node that is not deviated not-supported is built iff every one of its
    if-feature statements names a feature in force (when the checks raise no error) -/
theorem C14_presence (env : FeatEnv) (m : Meta) (pst : Nat) (b : Bool) (hns : m.notSupported = false)
    (h : ignoredM env m pst = .ok b) : b = false ↔ ∀ f ∈ m.iff, env.enabled.contains f = true := by
  rw [ignoredM, hns] at h
  rw [iffLoop_ok env m pst m.iff b h, List.any_eq_false]
  simp only [Bool.not_eq_true', Bool.not_eq_false]

theorem C14_not_supported (env : FeatEnv) (m : Meta) (pst : Nat) (hns : m.notSupported = true) :
    ignoredM env m pst = .ok true := by
  simp [ignoredM, hns]

/-- **C14 (features, transitively).** A feature is in force iff it is enabled and every feature reachable
    from it through if-feature statements is enabled (`fuel` = the number of declared features + 1 in
    `checkFeatures`: enough for every acyclic dependency graph) -/
theorem C14_feature_in_force (decls : List FeatDecl) (raw : List Tok) (fuel : Nat) (path : List Tok) (d : FeatDecl) (b : Bool)
    (hd : findDecl decls d.key = some d) (h : featValid decls raw (fuel + 1) path d = .ok b) :
    b = inForce decls raw fuel d.key := featValid_inForce decls raw fuel path d b hd h

/-- a genuine cycle is an error; (after the repair) a diamond is not -/
example : let ds : List FeatDecl := [⟨[1], [[2]], 0⟩, ⟨[2], [[1]], 0⟩]
    featValid ds [[1], [2]] 3 [] ⟨[1], [[2]], 0⟩ = .error "Feature cyclic reference" := by
  simp [featValid, featValid.loop, findDecl, modOf]
example : let ds : List FeatDecl := [⟨[1], [[2], [3]], 0⟩, ⟨[2], [[4]], 0⟩, ⟨[3], [[4]], 0⟩, ⟨[4], [], 0⟩]
    featValid ds [[1], [2], [3], [4]] 5 [] ⟨[1], [[2], [3]], 0⟩ = .ok true := by
  simp [featValid, featValid.loop, findDecl, modOf]

/-- **C14 (deviations).** On the statement tree, the four deviate processors do what the edit of the
    source does, and refuse exactly what the edit cannot do (node level) -/
theorem C14_deviate_node (d : Dev) (a : A) (hk : d.kind ≠ .notSupported) :
    (∀ a', devNode d a = .ok a' ↔ editNode d a = some (some a')) :=
  fun a' => devNode_iff d a a' hk

/-- `deviate not-supported` is carried out (the node is marked, and `C14_not_supported` removes it) iff it is the
    only deviate statement of its deviation; next to other deviate statements it is refused -/
theorem C14_deviate_not_supported (d : Dev) (a : A) (hk : d.kind = .notSupported) :
    ((∃ a', devNode d a = .ok a') ↔ editNode d a = some none) ∧
    (d.alone = false → devNode d a = .error "No other deviate statements allowed with not-supported") := by
  rw [devNode_notSupported d a hk, editNode_notSupported d a hk]
  cases d.alone <;> simp

/-- **C14 (deviations = edits of the source).** For any list of deviate add / replace / delete statements — any
    targets, at any depth, through choices and cases, in the order written — compiling the module with the
    deviations is compiling the module whose source was edited accordingly; and when the RFC forbids one of them
    (the edit does not exist) the module is refused. -/
theorem C14_deviations_are_edits (decls : List FeatDecl) (raw : List Tok) (lm : Tok) (top : List A) (devs : List Dev)
    (h : ∀ d ∈ devs, d.kind ≠ .notSupported) :
    (∀ t, editAll top devs = some t → compileCfg decls raw lm top devs = compileCfg decls raw lm t []) ∧
    (editAll top devs = none → ∀ cs, compileCfg decls raw lm top devs ≠ .ok cs) := by
  refine ⟨fun t ht => ?_, fun hn cs hc => ?_⟩
  · unfold compileCfg
    rw [(applyDevs_iff devs h top t).2 ht]
    rfl
  · obtain ⟨env, -, hc⟩ := bind_eq_ok.1 hc
    obtain ⟨t, ha, -⟩ := bind_eq_ok.1 hc
    rw [(applyDevs_iff devs h top t).1 ha] at hn
    cases hn

/-- **C14 (not-supported = the node is gone).** Marking the target (which is what the processor does) and
    building gives the schema of the body with the target deleted, for every filter and feature set, wherever
    the target is. -/
theorem C14_not_supported_is_removal (d : Dev) (hk : d.kind = .notSupported) (ha : d.alone = true) (top t' : List A)
    (h : devKids d d.path top = .ok t') :
    ∃ t'', editKids d d.path top = some t'' ∧ ∀ f env, compile f env t' = compile f env t'' := by
  obtain ⟨t'', e1, e2⟩ := ns_kids d hk ha top d.path t' h
  exact ⟨t'', e1, fun f env => by simp only [compile]; rw [e2 f env {}]⟩

/-- non-vacuity: `deviate replace { default }` on a leaf inside a case inside a choice inside a container -/
example : editAll [.container [1] {} false [.choice [2] {} false none [.case [3] {} [.leaf [4] {} false (some [7])]]]]
    [{ path := [[1], [2], [3], [4]], kind := .replace, prop := .dflt, val := [8] }] =
    some [.container [1] {} false [.choice [2] {} false none [.case [3] {} [.leaf [4] {} false (some [8])]]]] := rfl

end YV.Props.C14
