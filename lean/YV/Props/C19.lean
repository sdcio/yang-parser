/-
  Props.C19 — encoders and decoders round-trip; decoding is total.

  Proved at the level of JSON values (bytes ↔ values is encoding/json's and danos/rfc7951's job): for every
  schema, every root with well-formed children and both JSON encodings, decoding what the writer produces gives
  the children back — names, values, order of entries and values — under a root without name (the reader has
  none to give it: `C19_json_roundtrip`), hence both JSON encodings decode to the same tree
  (`C19_encodings_agree`); and the reader never changes a scalar: what it hands to the type is the string, the
  literal of the number, true/false, or "" for null.  The same at the level of XML elements (`C19_xml_roundtrip`:
  one element per list entry and per leaf-list value, the reader gathers the elements of one name in document
  order — every tree whose sibling names differ and whose lists / leaf-lists are not empty comes back, root name
  included, for any nesting depth, with the fuel the depth asks for), hence all three encodings decode to the
  same children of the root (`C19_three_encodings_agree`).  A list or leaf-list node without entries has no XML
  element: a tree that has such nodes comes back from XML without them and otherwise unchanged, and the three
  encodings agree up to these nodes (`C19_xml_roundtrip_modulo_empty`, `C19_three_encodings_agree_modulo_empty`).
  Nothing is proved here about the bytes layers or about totality on arbitrary bytes: these are compared /
  fuzzed by the correspondence streams.
-/
import YV.Proofs.YEnc
import YV.Proofs.YEncX
import YV.Proofs.YEncE
namespace YV.Props.C19
open YV YV.Y YV.SC YV.D YV.E

variable {τ : Type}

/-- **C19 (round trip, JSON and RFC 7951).** decoding either JSON encoding of a root with well-formed children
    `ks` gives a root with exactly these children; the reader gives it no name (`[]`, whatever `rn` was) -/
theorem C19_json_roundtrip (kind : τ → VK) (rfc : Bool) (mo : List Tok → Tok) (hm : ∀ p, (mo p).contains 58 = false)
    (top : List (SN τ)) (rn : Tok) (ks : List DN) (hwf : wfKids kind top ks = true) :
    fromJ top (toJ kind rfc mo top (.mk rn ks [])) = some (.mk [] ks []) :=
  congrArg (Option.map fun ks => DN.mk [] ks []) (dec_enc_kids kind rfc mo hm top [] [] ks hwf)

/-- the two JSON encodings of a tree decode to the same tree -/
theorem C19_encodings_agree (kind : τ → VK) (mo : List Tok → Tok) (hm : ∀ p, (mo p).contains 58 = false)
    (top : List (SN τ)) (root : DN) (hv : root.vals = []) (hwf : wfKids kind top root.kids = true) :
    fromJ top (toJ kind true mo top root) = fromJ top (toJ kind false mo top root) := by
  obtain ⟨rn, ks, vs⟩ := root
  obtain rfl : vs = [] := hv
  rw [C19_json_roundtrip kind true mo hm top rn ks hwf, C19_json_roundtrip kind false mo hm top rn ks hwf]

/-- **C19 (a scalar is never altered by the reader).** whatever the document holds for a leaf, the value
    handed to the leaf's type is that very string / number literal / boolean word (or "" for null): a value
    the type rejects cannot turn into one it accepts on the way -/
theorem C19_scalar_unaltered (j : J) (v : Bytes) (h : decodeValue j = some v) :
    j = .str v ∨ j = .num v ∨ (∃ b, j = .bool b ∧ v = lit b) ∨ (j = .null ∧ v = []) := by
  -- the four branches of `decodeValue` that give a value
  cases j <;> cases h
  · exact .inl rfl
  · exact .inr (.inl rfl)
  · exact .inr (.inr (.inl ⟨_, rfl, rfl⟩))
  · exact .inr (.inr (.inr ⟨rfl, rfl⟩))

/-- a 64-bit number travels as a string in RFC 7951 and as a number literal in plain JSON; either way it
    comes back digit for digit (before the repair the reader went through a float64) -/
theorem C19_int64_exact (rfc : Bool) (v : Bytes) : decodeValue (writeValue rfc .num64 v) = some v := by
  cases rfc <;> rfl

/-- **C19 (round trip, XML).** with fuel beyond the depth of `ks`, decoding the XML encoding of a root with
    well-formed children gives the root back, name and children -/
theorem C19_xml_roundtrip (top : List (SN τ)) (rn : Tok) (ks : List DN) (hwf : xwfKids top ks)
    (fuel : Nat) (hf : dDepthL ks < fuel) :
    fromX top fuel (toX top (.mk rn ks [])) = some (.mk rn ks []) :=
  congrArg (Option.map fun ds => DN.mk rn ds []) (xdec_kids fuel top ks hwf hf)

/-- **C19 (round trip, XML, lists and leaf-lists without entries).** The decoders return a list or leaf-list node without
    entries for `"l": []`; the JSON writers write it back as an empty array (`C19_json_roundtrip` covers such trees), the
    XML writer has no element to write for it.  For every schema and every tree that is well-formed but for such nodes,
    at any depth, the XML encoding decodes to the tree without them (`dropEmpty`): nothing else is lost or changed. -/
theorem C19_xml_roundtrip_modulo_empty (top : List (SN τ)) (rn : Tok) (ks : List DN) (hwf : xwfKids0 top ks)
    (fuel : Nat) (hf : dDepthL ks < fuel) :
    fromX top fuel (toX top (.mk rn ks [])) = some (.mk rn (dropEmpty top ks) []) :=
  xml_roundtrip_dropEmpty top rn ks hwf fuel hf

/-- the XML writer writes the same for a tree and for the tree without such nodes -/
theorem C19_dropEmpty_writes_the_same (top : List (SN τ)) (ks : List DN) :
    xencKids top (dropEmpty top ks) = xencKids top ks := xencKids_dropEmpty top ks

/-! non-vacuity: container c { leaf-list ll; leaf x; } with ll present and empty, x = "v" -/
def exTop : List (SN Unit) := [.container [99] false [.leafList [108] () 0 none, .leaf [120] () none false]]
def exKs : List DN := [.mk [99] [.mk [108] [] [], .mk [120] [] [[118]]] []]
example : xwfKids0 exTop exKs := by
  simp [exTop, exKs, xwfKids0_cons, xwfNode0, kindOf, lookup, dataKids, SN.name, DN.name, xwfKids0_nil]

/-- all three encodings of a tree decode to the same children, in the same order -/
theorem C19_three_encodings_agree (kind : τ → VK) (mo : List Tok → Tok) (hm : ∀ p, (mo p).contains 58 = false)
    (top : List (SN τ)) (rn : Tok) (ks : List DN) (hj : wfKids kind top ks = true) (hx : xwfKids top ks)
    (fuel : Nat) (hf : dDepthL ks < fuel) :
    (fromJ top (toJ kind true mo top (.mk rn ks []))).map DN.kids = some ks ∧
    (fromJ top (toJ kind false mo top (.mk rn ks []))).map DN.kids = some ks ∧
    (fromX top fuel (toX top (.mk rn ks []))).map DN.kids = some ks := by
  rw [C19_json_roundtrip kind true mo hm top rn ks hj, C19_json_roundtrip kind false mo hm top rn ks hj,
    C19_xml_roundtrip top rn ks hx fuel hf]
  exact ⟨rfl, rfl, rfl⟩

/-- **C19 (the three encodings, lists and leaf-lists without entries admitted).** Both JSON encodings decode to the tree,
    XML to the tree without its empty list / leaf-list nodes: up to those nodes — which say what their absence says —
    all three encodings of a tree decode to the same tree. -/
theorem C19_three_encodings_agree_modulo_empty (kind : τ → VK) (mo : List Tok → Tok) (hm : ∀ p, (mo p).contains 58 = false)
    (top : List (SN τ)) (rn : Tok) (ks : List DN) (hj : wfKids kind top ks = true) (hx : xwfKids0 top ks)
    (fuel : Nat) (hf : dDepthL ks < fuel) :
    (fromJ top (toJ kind true mo top (.mk rn ks []))).map (fun d => dropEmpty top d.kids) = some (dropEmpty top ks) ∧
    (fromJ top (toJ kind false mo top (.mk rn ks []))).map (fun d => dropEmpty top d.kids) = some (dropEmpty top ks) ∧
    (fromX top fuel (toX top (.mk rn ks []))).map DN.kids = some (dropEmpty top ks) := by
  rw [C19_json_roundtrip kind true mo hm top rn ks hj, C19_json_roundtrip kind false mo hm top rn ks hj,
    C19_xml_roundtrip_modulo_empty top rn ks hx fuel hf]
  exact ⟨rfl, rfl, rfl⟩

/-! non-vacuity: container c { leaf x (int64) ; leaf-list l (string) } with x = "9223", l = ["a", "b"] -/
def demoTop : List (SN VK) := [.container [99] false [.leaf [120] .num64 none false, .leafList [108] .other 0 none]]
def demoData : List DN := [.mk [99] [.mk [120] [] [[57, 50, 50, 51]], .mk [108] [] [[97], [98]]] []]
example : wfKids id demoTop demoData = true := by decide +kernel

example : xwfKids demoTop demoData := by
  simp [demoTop, demoData, xwfKids_cons, xwfNode, kindOf, lookup, dataKids, SN.name, DN.name, xwfKids_nil]

end YV.Props.C19
