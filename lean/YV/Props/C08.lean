/-
  C08 — YANG string arguments are decoded as RFC 6020 §6.1.3 prescribes.  Headline theorems.

  The property: for every value, every way of writing it (unquoted, single-quoted, double-quoted, pieces joined
  by '+') and every layout of the source, the argument the parser hands on is that value.
  Proved, against the specification in Spec/YArg, are the ingredients the decoder is built from —
    * `C08_escape`: the code's Split-on-backslash substitution is the left-to-right scan of the defined
      escapes, for every text (no `\r` pair; RFC 6020 does not define it);
    * `C08_roundtrip_single_line`: escaping a value and decoding it returns the value, for every value and
      every quote column (single-line source form), and single-quoted / unquoted text is verbatim;
    * `C08_indent`: the code's column stripping (tabs = 8 columns, a tab across the column leaves blanks)
      equals the specification's, for every line and every quote column ≥ 1;
    * `C08_layout`: for every double-quoted text without a backslash — any number of lines, LF or CRLF,
      blank lines, blanks and tabs before and behind the text of a line, any quote column ≥ 1 — the code's
      decoder (`trimWhitespace`: per-line loop with its index bookkeeping, CR handling and empty-line cases)
      yields exactly what the specification reads off the source (trailing blanks before a line break and
      the indentation of continuation lines up to the quote column removed, a tab counting eight);
    * `C08_layout_with_escapes`: the same for texts that contain the escapes \" and \\ anywhere (every
      backslash starts one of the two pairs): substituting first and laying out afterwards — what the code
      does — equals laying out first and substituting afterwards — what the specification says; the two
      do not interfere because neither pair contains a blank, a tab, CR or LF;
    * `C08_concat`: the value of pieces joined by '+' is the concatenation of their values.
  Not proved: the composition for texts with \n / \t escapes next to real or escaped line breaks — RFC 6020 does
  not fix the order of trimming and substitution — and for texts with the pair \r (substituted by the code, not
  an escape of RFC 6020): these are compared implementation-vs-model only (`orderSensitive` in Spec/YArg).  Every
  other backslash pair stays as it is, in the specification as in the code.  The tie to the parser is stream
  yarg: value × quoting × layout triples on the real parser, compared with the model and with `decodeArg`.
-/
import YV.Proofs.YArg
import YV.Proofs.YLayout
import YV.Proofs.YLayoutEsc
namespace YV.C08
open YV YV.Y YV.YS

theorem C08_escape (s : Bytes) (h : hasEscape [114] s = false) : escapeSubst s = unescape s :=
  escapeSubst_eq_unescape s h

theorem C08_indent (col : Nat) (hc : col ≥ 1) (line : Bytes) :
    trimLeadWS col 0 line = stripColumns col 0 line :=
  trimLeadWS_eq col line 0 hc

theorem C08_layout (col : Nat) (hc : col ≥ 1) (raw : Bytes) (h92 : ∀ x ∈ raw, x ≠ 92) :
    trimWhitespace col raw = decodeDQ col raw := trimWhitespace_eq_decodeDQ col hc raw h92

theorem C08_layout_with_escapes (col : Nat) (hc : col ≥ 1) (raw : Bytes) (hs : safe raw = true) :
    trimWhitespace col raw = decodeDQ col raw := trimWhitespace_eq_decodeDQ_safe col hc raw hs

/-- non-vacuity: say \"hi\" <LF> <blanks> c:\\dir -/
example : safe [115, 97, 121, 32, 92, 34, 104, 105, 92, 34, 32, 10, 32, 32, 32, 99, 58, 92, 92, 100, 105, 114] = true := by decide +kernel

/-- non-vacuity: a three-line text, CRLF and LF, a tab across the quote column, trailing blanks, a blank line -/
example : decodeDQ 4 [97, 32, 32, 13, 10, 32, 32, 9, 98, 32, 10, 10, 32, 32, 32, 32, 32, 99] =
    [97, 13, 10, 32, 32, 32, 32, 32, 32, 98, 10, 10, 32, 99] := by decide +kernel

/-- all three source forms of a value decode to the value (double-quoted: written on one source line with
    `"`, `\`, line feed and tab escaped; any column) -/
theorem C08_roundtrip_single_line (v : Bytes) (col : Nat) :
    decodePiece (.double col (escapeStr true v)) = v ∧ decodePiece (.single v) = v ∧ decodePiece (.unquoted v) = v :=
  ⟨(decodeDQ_one_line col _ (escapeStr_one_line v)).trans (unescape_escapeStr true v), rfl, rfl⟩

/-- pieces joined by '+' concatenate -/
theorem C08_concat (ps qs : List Piece) : decodeArg (ps ++ qs) = decodeArg ps ++ decodeArg qs := by
  simp [decodeArg]

/-- non-vacuity: a value with every special character -/
example : decodePiece (.double 7 (escapeStr true [97, 34, 92, 10, 9, 32, 47, 47])) = [97, 34, 92, 10, 9, 32, 47, 47] :=
  (C08_roundtrip_single_line _ 7).1

end YV.C08
