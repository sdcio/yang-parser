/-
  C01 — XPath scalar evaluation follows XPath 1.0 semantics
  (lemmas: YV/Proofs/XEval.lean, XCmp.lean, XSpec.lean)
-/
import YV.Proofs.XEval
import YV.Proofs.XCmp
import YV.Proofs.XSpec
import YV.Spec.XSem
import YV.Model.XTables
import YV.Gen.XPath
import YV.Proofs.XGen
namespace YV.C01
open YV YV.X YV.XS

/-- Compiler correctness, any nesting depth: running the postfix program the grammar actions emit
    for `e`, followed by `store`, yields exactly the bottom-up value of the tree (or the same error). -/
theorem C01_machine_eq_tree (env : Env) (e : Expr) (hw : WellFormed e) :
    run env (compile e ++ [.store]) = (evalM env e >>= fun v => pure (some v)) := by
  unfold run
  rw [exec_compile env e hw [.store] {}, bind_assoc]
  rfl

/-- **C01 (machine = XPath 1.0).** For every well-formed expression tree — any nesting depth — over numbers, literals,
    data operands that are absent or single-valued, unary minus, the thirteen binary operators and the core
    functions boolean not true false number string ceiling floor concat contains starts-with string-length
    normalize-space substring-before substring-after translate last position, the compiled program runs without
    error and stores the value the XPath 1.0 specification (`XS.eval`: §3.4 comparisons, §3.5 arithmetic in
    binary64, §4 conversions and function definitions) gives.  (`eval true`: the variant that reads the spelled
    infinities, see C01_number_of_string.  round() and substring() are outside `PureX`: their IEEE formulation
    against the exact one is compared by the streams; multi-valued leaf-lists: C01_compare / C01_existential.) -/
theorem C01_machine_is_xpath (env : Env) (henv : SimpleEnv env) (e : Expr) (hw : WellFormed e) (hp : PureX e) :
    ∃ d, run env (compile e ++ [.store]) = .ok (some d) ∧ eval true env e = some (ofDatum d) := by
  obtain ⟨d, h1, _, h3⟩ := evalM_spec env henv e hw hp
  exact ⟨d, by rw [C01_machine_eq_tree env e hw, h1]; rfl, h3⟩

/-- the function table of the source (names, arities, argument kinds, return kinds) is the one the
    model's `Fn.sig` and `WellFormed` range over — regenerated from xpath/symbol.go on every run -/
theorem C01_fn_table : Gen.fnTable = XT.fnTableSorted := XT.fnTable_is_source

/-- string → number (datum.go numberFromString) reads exactly the §4.4 grammar
    `Number ::= Digits ('.' Digits?)? | '.' Digits` with optional minus and surrounding XPath whitespace —
    in the variant that also reads the two spelled infinities (`numOfStr true`; the open finding
    C01-number-of-Infinity-string is exactly the difference between `numOfStr true` and `numOfStr false`) -/
theorem C01_number_of_string (s : Str) : numberFromString s = numOfStr true s := numberFromString_eq s

/-- every comparison (`= != < <= > >=`) of every pair of operands — scalars of any kind, absent nodes,
    single leaves, multi-valued leaf-lists — is the §3.4 comparison of the specification: booleans win over
    numbers win over strings for (in)equality, numbers for the relational operators, and a node-set
    compares existentially over the string-values of its nodes -/
theorem C01_compare (op : BinOp) (hop : cmpOp op = true) (a b : Datum)
    (ha : a ≠ .invalid) (hb : b ≠ .invalid) :
    X.compare op a b = .ok (cmp true op (ofDatum a) (ofDatum b)) := compare_spec op hop a b ha hb

/-- an absent node is false in every comparison, on either side, against anything -/
theorem C01_absent_false (op : BinOp) (hop : cmpOp op = true) (b : Datum) (hb : b ≠ .invalid) :
    X.compare op .emptyNodeset b = .ok false ∧ X.compare op b .emptyNodeset = .ok false := by
  refine ⟨rfl, (compare_spec op hop b .emptyNodeset hb nofun).trans (congrArg Except.ok ?_)⟩
  cases b with
  | slice ds => cases ds <;> rfl
  | _ => rfl

/-- a multi-valued leaf-list compares existentially: against a string or number operand the result is
    true iff some entry compares true -/
theorem C01_existential (op : BinOp) (hop : cmpOp op = true) (entries : List Str) (t : Str) :
    X.compare op (.slice entries) (.lit t) = .ok (entries.any fun s => cmpScalar true op (.str s) (.str t)) := by
  refine (compare_spec op hop (.slice entries) (.lit t) nofun nofun).trans (congrArg Except.ok ?_)
  cases entries <;> rfl

example : X.compare .eq (.slice ["a".toList, "b".toList]) (.lit "b".toList) = .ok true := rfl

/-- non-vacuity: a nested, well-formed expression -/
example : WellFormed (.call .substring [.lit "12345".toList, .bin .div (.num SF.one) (.num SF.zero), .neg (.env 0)]) :=
  ⟨rfl, trivial, ⟨trivial, trivial⟩, trivial, trivial⟩

/-- non-vacuity of `PureX` / `SimpleEnv`: translate(concat(x, 'b'), 'ab', 'AB') = 'AB' and not(-(1 div 0) < x) over
    an environment with an absent node, a leaf and a one-entry leaf-list -/
example : PureX (.bin .and (.call .not [.bin .lt (.neg (.bin .div (.num SF.one) (.num SF.zero))) (.env 1)])
    (.bin .eq (.call .translate [.call .concat [.env 2, .lit "b".toList], .lit "ab".toList, .lit "AB".toList]) (.lit "AB".toList))) :=
  ⟨⟨rfl, ⟨⟨trivial, trivial⟩, trivial⟩, trivial⟩, ⟨rfl, ⟨rfl, trivial, trivial, trivial⟩, trivial, trivial, trivial⟩, trivial⟩
example : SimpleEnv (fun id => match id with | 0 => .emptyNodeset | 1 => .lit "7".toList | 2 => .slice ["a".toList] | _ => .num SF.one) := by
  intro id
  match id with
  | 0 => trivial
  | 1 => trivial
  | 2 => exact Nat.le_refl 1
  | _ + 3 => trivial

end YV.C01
