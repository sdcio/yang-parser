import YV.Drv.T
import YV.Spec.YPathS
import YV.Spec.YDataS
import YV.Proofs.YLevel
namespace YV.Drv.S
open Lean YV YV.Y YV.T YV.TS YV.SC YV.SS YV.Drv YV.Drv.T

def optNat (j : Json) (k : String) : Option Nat := if jhas j k then some (jnat j k) else none
def optStr (j : Json) (k : String) : Option Bytes :=
  if jhas j k then (match jobj j k with | .str s => some (bytesOf s) | _ => none) else none

/-- load the generator's schema AST; `mkTy` builds the leaf type from {"base","levels"} -/
partial def loadSN {τ : Type} (mkTy : Json → Option τ) (j : Json) : Option (SN τ) := do
  let name := bytesOf (jstr j "n")
  let kids ← (jarr j "kids").mapM (loadSN mkTy)
  match jstr j "k" with
  | "container" => pure (.container name (jbool j "presence") kids)
  | "list" =>
    let uniques := (jarr j "uniques").map fun u => (match u with
      | .arr a => a.toList.map fun p => ((strOf p).splitOn "/").map bytesOf
      | _ => [])
    pure (.list name ((jarr j "keys").map fun k => bytesOf (strOf k)) (jnat j "min") (optNat j "max") uniques kids)
  | "leaf" => do
    let ty ← mkTy (jobj j "type")
    pure (.leaf name ty (optStr j "dflt") (jbool j "mandatory"))
  | "leaf-list" => do
    let ty ← mkTy (jobj j "type")
    pure (.leafList name ty (jnat j "min") (optNat j "max"))
  | "choice" => pure (.choice name (jbool j "mandatory") (optStr j "dflt") kids)
  | "case" => pure (.case name kids)
  | _ => none

def mkTyM (j : Json) : Option Ty :=
  (build (baseOf (jstr j "base")) ((jarr j "levels").map levelOf)).map (·.1)
def mkTyS (j : Json) : Option STy :=
  (buildS (baseOf (jstr j "base")) ((jarr j "levels").map levelOf)).map (·.1)

def specSem : TySem STy := { accepts := accepts, isEmpty := fun t => match t with | .empty => true | _ => false }

def showPath (p : List Tok) : String := ".".intercalate (p.map fun t => "x" ++ Y.hexOf t)

def showErr : Except VErr Unit → String
  | .ok () => "ok"
  | .error (.pathInvalid path e) => s!"unknown-element|{showPath path}|{Y.hexOf e}|path"
  | .error (.missingChild path) => s!"missing-element|{showPath path}|{Y.hexOf (msg "<any child>")}|child"
  | .error (.missingValue path) => s!"invalid-value|{showPath path}||novalue"
  | .error (.badValue path) => s!"invalid-value|{showPath path}||type"
  | .error (.emptyValue path v) => s!"unknown-element|{showPath path}|{Y.hexOf v}|emptyleaf"
  | .error (.internal m) => s!"internal|{m}"

def showVerdict : Verdict → String
  | .ok => "ok"
  | .bad k .unknown => s!"bad {k} unknown"
  | .bad k .value => s!"bad {k} value"
  | .bad k .incomplete => s!"bad {k} incomplete"
  | .internal => "internal"

/-- a leaf type of the path stream: a plain type, or a union of plain types (accepted iff a member accepts) -/
def mkTyMU (j : Json) : Option (List Ty) :=
  if jstr j "base" = "union" then (jarr j "members").mapM mkTyM else (mkTyM j).map fun t => [t]
def mkTySU (j : Json) : Option (List STy) :=
  if jstr j "base" = "union" then (jarr j "members").mapM mkTyS else (mkTyS j).map fun t => [t]

def handlePath (j : Json) : List (String × Json) :=
  let paths := (jarr j "paths").map fun p => match p with
    | .arr a => a.toList.map fun t => bytesOf (strOf t)
    | _ => []
  let m := match (jarr j "top").mapM (loadSN mkTyMU) with
    | none => "compile-err"
    | some top => ";".intercalate (paths.flatMap fun p => [false, true].map fun ai => showErr (vtree (unionSem modelSem) ai top p))
  let s := match (jarr j "top").mapM (loadSN mkTySU) with
    | none => "compile-err"
    | some top => ";".intercalate (paths.flatMap fun p => [false, true].map fun ai => showVerdict (walkTop (unionSem specSem) ai top p))
  [("m", m), ("s", s)]

end YV.Drv.S

namespace YV.Drv.S
open Lean YV YV.Y YV.T YV.TS YV.SC YV.SS YV.D YV.DS YV.Drv YV.Drv.T

instance : Inhabited DN := ⟨.mk [] [] []⟩

partial def loadDN (j : Json) : DN :=
  .mk (bytesOf (jstr j "n")) ((jarr j "kids").map loadDN) ((jarr j "vals").map fun v => bytesOf (strOf v))

def sortStrs (l : List String) : List String := (l.toArray.qsort (· < ·)).toList

partial def walkDN : DN → String
  | .mk n kids vals =>
    Y.hexOf n ++
      (if kids.isEmpty then "" else "(" ++ ",".intercalate (sortStrs (kids.map walkDN)) ++ ")") ++
      (if vals.isEmpty then "" else "[" ++ ",".intercalate (vals.map Y.hexOf) ++ "]")

def showCfgPath (p : List Tok) : String := ".".intercalate (p.map fun t => "x" ++ Y.hexOf t)
def strOfTok (t : Tok) : String := String.fromUTF8! (ByteArray.mk (t.map (·.toUInt8)).toArray)

def showDErr : DErr → String
  | .mand p n => s!"mand|{showCfgPath p}|{strOfTok n}"
  | .choice p => s!"choice|{showCfgPath p}"
  | .card xp => "card|" ++ String.join (xp.map fun t => "/" ++ strOfTok t)
  | .unique p ks => s!"unique|{showCfgPath p}|" ++ " ".intercalate (sortStrs (ks.map strOfTok))

def showData (top : List (SN Ty)) (root : DN) (errs : List DErr) (dec : DN) (dec2 : DN) : String :=
  "V:" ++ ";".intercalate (sortStrs (errs.map showDErr)) ++ "\nD:" ++ walkDN dec ++ "\n" ++
    (if walkDN dec = walkDN dec2 then "idem" else "NOT-idem:" ++ walkDN dec2)

def handleData (j : Json) : List (String × Json) :=
  match (jarr j "top").mapM (loadSN mkTyM) with
  | none => [("m", "compile-err"), ("s", "compile-err")]
  | some top =>
    let root := loadDN (jobj j "data")
    -- the hypothesis of C18_defaults_in_use / C18_idempotent, checked on every schema the stream feeds
    let wf := if DS.wfTop top then "" else "SCHEMA-NOT-WELL-FORMED\n"
    let m := wf ++ showData top root (validateData top root) (decorate top root) (decorate top (decorate top root))
    let s := showData top root (violations top root) (decorateS top root) (decorateS top (decorateS top root))
    [("m", m), ("s", s)]

end YV.Drv.S
