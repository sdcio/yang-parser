/-
  Proofs.YLexR — the YANG lexer reads back what was written: a text given as a sequence of lexemes — runs of
  blanks, block and line comments, unquoted words, double- and single-quoted strings, braces, semicolons, '+' —
  is turned into exactly the items of those lexemes, with their byte positions, followed by EOF.  A comment
  yields no item; a blank run yields one separator item.
-/
import YV.Proofs.YLex
import YV.Proofs.Lists
namespace YV.Y

inductive Lx where
  | ws (bs : Bytes)          -- a maximal run of blanks / tabs / CR / LF
  | blockC (body : Bytes)    -- /* body */
  | lineC (body : Bytes)     -- // body LF
  | lineE (body : Bytes)     -- // body, at the very end of the text (its last line has no line break)
  | word (w : Bytes)         -- an unquoted string
  | dq (s : Bytes)           -- "s"
  | sq (s : Bytes)           -- 's'
  | lb | rb | semi | plus
  deriving Repr

def Lx.bytes : Lx → Bytes
  | .ws bs => bs
  | .blockC body => 47 :: 42 :: (body ++ [42, 47])
  | .lineC body => 47 :: 47 :: (body ++ [10])
  | .lineE body => 47 :: 47 :: body
  | .word w => w
  | .dq s => 34 :: (s ++ [34])
  | .sq s => 39 :: (s ++ [39])
  | .lb => [123] | .rb => [125] | .semi => [59] | .plus => [43]

def renderL : List Lx → Bytes
  | [] => []
  | x :: r => x.bytes ++ renderL r

/-- the items one lexeme gives when it starts at byte `pos` -/
def Lx.items (pos : Nat) : Lx → List Item
  | .ws bs => [⟨.sep, pos, bs⟩]
  | .blockC _ => []
  | .lineC _ => []
  | .lineE _ => []
  | .word w => [⟨.string, pos, w⟩]
  | .dq s => [⟨.quote, pos, [34]⟩, ⟨.string, pos + 1, s⟩, ⟨.quote, pos + 1 + s.length, [34]⟩]
  | .sq s => [⟨.quote, pos, [39]⟩, ⟨.string, pos + 1, s⟩, ⟨.quote, pos + 1 + s.length, [39]⟩]
  | .lb => [⟨.lbrace, pos, [123]⟩]
  | .rb => [⟨.rbrace, pos, [125]⟩]
  | .semi => [⟨.semi, pos, [59]⟩]
  | .plus => [⟨.plus, pos, [43]⟩]

def itemsFrom : Nat → List Lx → List Item
  | pos, [] => [⟨.eof, pos, []⟩]
  | pos, x :: r => x.items pos ++ itemsFrom (pos + x.bytes.length) r

def noStarSlash : Bytes → Bool
  | 42 :: 47 :: _ => false
  | _ :: r => noStarSlash r
  | [] => true

/-- the content of a double-quoted string: every backslash takes the next byte with it, no bare quote -/
def dqBody : Bytes → Bool
  | [] => true
  | 92 :: _ :: r => dqBody r
  | [92] => false
  | c :: r => c ≠ 34 && dqBody r

/-- what may follow: nothing, or a byte satisfying `p` -/
def nextIs (p : Nat → Bool) (rest : Bytes) : Prop := rest = [] ∨ ∃ c r, rest = c :: r ∧ p c = true

def Lx.ok (rest : Bytes) : Lx → Prop
  | .ws bs => bs ≠ [] ∧ bs.all isSep = true ∧ nextIs (fun c => !isSep c) rest
  | .blockC body => noStarSlash body = true
  | .lineC body => body.all (· ≠ 10) = true
  | .lineE body => body.all (· ≠ 10) = true ∧ rest = []
  | .word w =>
    w ≠ [] ∧ w.all (fun c => !isTerminator c) = true ∧ nextIs isTerminator rest ∧
      w.head? ≠ some 43 ∧ w.head? ≠ some 39 ∧ ¬ (w.head? = some 47 ∧ (w.drop 1).head? = some 42) ∧
      ¬ (w.head? = some 47 ∧ (w.drop 1).head? = some 47)
  | .dq s => dqBody s = true
  | .sq s => s.all (· ≠ 39) = true
  | _ => True

/-- a well-formed text at nesting depth `d`: every lexeme is well-formed in front of what follows, a closing
    brace has its opening one, and all blocks are closed at the end -/
def okL : Nat → List Lx → Prop
  | d, [] => d = 0
  | d, .lb :: r => okL (d + 1) r
  | d, .rb :: r => d > 0 ∧ okL (d - 1) r
  | d, x :: r => x.ok (renderL r) ∧ okL d r

/-- a run of bytes satisfying `p` is what `takeWhile p` takes if a byte that may follow it does not satisfy `p` -/
theorem takeWhile_run {p q : Nat → Bool} (run rest : Bytes) (h : run.all p = true) (hn : nextIs q rest)
    (hq : ∀ c, q c = true → p c = false) : (run ++ rest).takeWhile p = run := by
  refine (takeWhile_append_stop (List.all_eq_true.mp h) fun c r e => ?_).1
  rcases hn with rfl | ⟨c', r', rfl, hc⟩
  · cases e
  · cases e; exact hq _ hc

/-- a byte that may not follow `w` is inside `w` if it is the first of `w ++ rest` -/
theorem head?_of_nextIs {p : Nat → Bool} {w rest : Bytes} {x : Nat} (hn : nextIs p rest) (hx : p x = false)
    (h : (w ++ rest).head? = some x) : w.head? = some x := by
  cases w with
  | cons => exact h
  | nil =>
    rcases hn with rfl | ⟨y, r, rfl, hy⟩
    · cases h
    · cases h; rw [hy] at hx; cases hx

theorem noStarSlash_cons (c : Nat) (r : Bytes) :
    noStarSlash (c :: r) = true ↔ ¬ (c = 42 ∧ r.head? = some 47) ∧ noStarSlash r = true := by
  by_cases hc : c = 42
  · subst hc
    cases r with
    | nil => simp [noStarSlash]
    | cons d r' =>
      by_cases hd : d = 47
      · subst hd; simp [noStarSlash]
      · -- the equation of the catch-all pattern has the side goal that the pattern before it does not match
        rw [noStarSlash]
        · simp [hd]
        · intros; simp_all
  · rw [noStarSlash]
    · simp [hc]
    · intros; simp_all

theorem find2_body (body rest : Bytes) (h : noStarSlash body = true) :
    find2 42 47 (body ++ 42 :: 47 :: rest) = some body.length := by
  fun_induction noStarSlash body with
  | case1 => simp at h
  | case2 c r hc ih =>
    have ih := ih h
    cases r with
    | nil => simp [find2]
    | cons d r' =>
      have : ¬ (c = 42 ∧ d = 47) := fun ⟨e1, e2⟩ => hc r' e1 (by rw [e2])
      simp only [List.cons_append] at ih ⊢
      rw [find2, ih]
      simpa using this
  | case3 => simp [find2]

theorem find1_append (body rest : Bytes) (h : body.all (· ≠ 10) = true) :
    find1 10 (body ++ rest) = (find1 10 rest).map (· + body.length) := by
  induction body with
  | nil => simp
  | cons c r ih =>
    simp only [List.all_cons, Bool.and_eq_true, decide_eq_true_eq] at h
    simp [find1, h.1, ih h.2]
    rfl

theorem scan_sq (s rest : Bytes) (h : s.all (· ≠ 39) = true) (f : Nat) (hf : s.length ≤ f) :
    scanQuoted 39 (f + 1) (s ++ 39 :: rest) = some (s, 39 :: rest) := by
  induction s generalizing f with
  | nil => rfl
  | cons c r ih =>
    obtain ⟨f, rfl⟩ := Nat.exists_eq_add_one_of_ne_zero (Nat.ne_zero_of_lt hf)
    simp only [List.all_cons, Bool.and_eq_true, decide_eq_true_eq] at h
    have hr := congrArg (Option.map fun (s, rest) => (c :: s, rest)) (ih h.2 f (Nat.le_of_succ_le_succ hf))
    -- a backslash is an ordinary byte here
    by_cases h92 : c = 92
    · exact (if_pos h92).trans ((if_pos rfl).trans hr)
    · exact (if_neg h92).trans ((if_neg h.1).trans hr)

theorem dqBody_esc (d : Nat) (r : Bytes) : dqBody (92 :: d :: r) = dqBody r := rfl
theorem dqBody_cons (c : Nat) (r : Bytes) (hc : c ≠ 92) : dqBody (c :: r) = (decide (c ≠ 34) && dqBody r) := by
  -- side goals: neither pattern that begins with a backslash matches
  rw [dqBody]
  · intros; simp_all
  · intros; simp_all

theorem scan_dq (s rest : Bytes) (h : dqBody s = true) (f : Nat) (hf : s.length ≤ f) :
    scanQuoted 34 (f + 1) (s ++ 34 :: rest) = some (s, 34 :: rest) := by
  induction s using pair_induction 92 generalizing f with
  | nil => rfl
  | pair d r ih =>
    obtain ⟨f, rfl⟩ := Nat.exists_eq_add_one_of_ne_zero (Nat.ne_zero_of_lt hf)
    -- the pair joins the content, by computation
    exact congrArg (Option.map _) (ih h f (Nat.le_of_succ_le (Nat.le_of_succ_le_succ hf)))
  | last => cases h
  | other c r hc ih =>
    obtain ⟨f, rfl⟩ := Nat.exists_eq_add_one_of_ne_zero (Nat.ne_zero_of_lt hf)
    simp only [dqBody_cons c r hc, Bool.and_eq_true, decide_eq_true_eq] at h
    exact (if_neg hc).trans ((if_neg h.1).trans (congrArg (Option.map _) (ih h.2 f (Nat.le_of_succ_le_succ hf))))

theorem step_ws (bs rest : Bytes) (hok : (Lx.ws bs).ok rest) (f pos d : Nat) :
    lexItems true (f + 1) (bs ++ rest) pos d =
      (lexItems true f rest (pos + bs.length) d).map ((Lx.ws bs).items pos ++ ·) := by
  obtain ⟨hne, hall, hnext⟩ := hok
  cases bs with
  | nil => exact absurd rfl hne
  | cons c run =>
    simp only [List.all_cons, Bool.and_eq_true] at hall
    rw [List.cons_append, lexItems_sep _ _ _ _ _ hall.1, takeWhile_run run rest hall.2 hnext fun _ => (Bool.not_eq_true' _).mp, List.drop_left,
      List.length_cons, Nat.add_assoc, Nat.add_comm 1]
    rfl

theorem step_word (w rest : Bytes) (hok : (Lx.word w).ok rest) (f pos d : Nat) :
    lexItems true (f + 1) (w ++ rest) pos d =
      (lexItems true f rest (pos + w.length) d).map ((Lx.word w).items pos ++ ·) := by
  obtain ⟨hne, hall, hnext, h43, h39, hbc, hlc⟩ := hok
  cases w with
  | nil => exact absurd rfl hne
  | cons c w' =>
    simp only [List.all_cons, Bool.and_eq_true, Bool.not_eq_true', List.head?_cons, List.drop_succ_cons, List.drop_zero,
      ne_eq, Option.some.injEq, not_and] at hall h43 h39 hbc hlc
    -- a '/' is not followed by '*' or '/': inside the word by `ok`, at its end because a terminator follows
    have hcm : ¬ (c = 47 ∧ ((w' ++ rest).head? = some 42 ∨ (w' ++ rest).head? = some 47)) := fun ⟨e, h⟩ =>
      h.elim (fun h => hbc e (head?_of_nextIs hnext rfl h)) fun h => hlc e (head?_of_nextIs hnext rfl h)
    rw [List.cons_append, lexItems_word _ _ _ _ _ hall.1 h43 h39 hcm]
    simp only [takeWhile_run w' rest hall.2 hnext fun _ => congrArg not, List.drop_left, Bool.not_true,
      Bool.and_false, Bool.false_eq_true, ↓reduceIte, List.length_cons]
    rfl

theorem step_blockC (body rest : Bytes) (hok : (Lx.blockC body).ok rest) (f pos d : Nat) :
    lexItems true (f + 1) ((Lx.blockC body).bytes ++ rest) pos d =
      (lexItems true f rest (pos + (Lx.blockC body).bytes.length) d).map ((Lx.blockC body).items pos ++ ·) := by
  have hb : (Lx.blockC body).bytes ++ rest = 47 :: 42 :: (body ++ 42 :: 47 :: rest) := by simp [Lx.bytes]
  rw [hb, lexItems_blockC, find2_body body rest hok]
  simp +arith [Lx.bytes, Lx.items]

theorem step_lineC (body rest : Bytes) (hok : (Lx.lineC body).ok rest) (f pos d : Nat) :
    lexItems true (f + 1) ((Lx.lineC body).bytes ++ rest) pos d =
      (lexItems true f rest (pos + (Lx.lineC body).bytes.length) d).map ((Lx.lineC body).items pos ++ ·) := by
  have hb : (Lx.lineC body).bytes ++ rest = 47 :: 47 :: (body ++ 10 :: rest) := by simp [Lx.bytes]
  rw [hb, lexItems_lineC, find1_append body _ hok]
  simp +arith [Lx.bytes, Lx.items, find1]

theorem step_lineE (body rest : Bytes) (hok : (Lx.lineE body).ok rest) (f pos d : Nat) :
    lexItems true (f + 1) ((Lx.lineE body).bytes ++ rest) pos d =
      (lexItems true f rest (pos + (Lx.lineE body).bytes.length) d).map ((Lx.lineE body).items pos ++ ·) := by
  obtain ⟨hb, rfl⟩ := hok
  have hn : find1 10 body = none := by simpa [find1] using find1_append body [] hb
  rw [List.append_nil, show (Lx.lineE body).bytes = 47 :: 47 :: body from rfl, lexItems_lineC, hn]
  simp +arith [Lx.items]

theorem step_quoted (q : Nat) (hq : q = 34 ∨ q = 39) (s rest : Bytes)
    (hs : ∀ f, s.length ≤ f → scanQuoted q (f + 1) (s ++ q :: rest) = some (s, q :: rest)) (f pos d : Nat) :
    lexItems true (f + 1) (q :: (s ++ [q]) ++ rest) pos d =
      (lexItems true f rest (pos + (q :: (s ++ [q])).length) d).map
        ([⟨.quote, pos, [q]⟩, ⟨.string, pos + 1, s⟩, ⟨.quote, pos + 1 + s.length, [q]⟩] ++ ·) := by
  rw [List.cons_append, List.append_assoc, List.singleton_append, lexItems_quote _ _ _ _ _ hq, hs _ (by simp)]
  simp +arith

theorem lex_step {d : Nat} {x : Lx} {r : List Lx} (h : okL d (x :: r)) (f pos : Nat) :
    ∃ d', okL d' r ∧ lexItems true (f + 1) (renderL (x :: r)) pos d =
      (lexItems true f (renderL r) (pos + x.bytes.length) d').map (x.items pos ++ ·) := by
  cases x with
  | lb => exact ⟨_, h, lexItems_lbrace ..⟩
  | rb => exact ⟨_, h.2, (lexItems_rbrace ..).trans (if_neg (Nat.ne_of_gt h.1))⟩
  | semi => exact ⟨_, h.2, lexItems_semi ..⟩
  | plus => exact ⟨_, h.2, lexItems_plus ..⟩
  | ws bs => exact ⟨_, h.2, step_ws bs _ h.1 ..⟩
  | word w => exact ⟨_, h.2, step_word w _ h.1 ..⟩
  | blockC b => exact ⟨_, h.2, step_blockC b _ h.1 ..⟩
  | lineC b => exact ⟨_, h.2, step_lineC b _ h.1 ..⟩
  | lineE b => exact ⟨_, h.2, step_lineE b _ h.1 ..⟩
  | dq s => exact ⟨_, h.2, step_quoted 34 (.inl rfl) s _ (scan_dq s _ h.1) ..⟩
  | sq s => exact ⟨_, h.2, step_quoted 39 (.inr rfl) s _ (scan_sq s _ h.1) ..⟩

/-- **the lexer reads back the lexemes**, with positions; comments leave no item -/
theorem lex_lexemes (L : List Lx) (f pos d : Nat) (hok : okL d L) (hf : L.length ≤ f) :
    lexItems true (f + 1) (renderL L) pos d = some (itemsFrom pos L) := by
  induction L generalizing f pos d with
  | nil => cases hok; rfl
  | cons x r ih =>
    obtain ⟨d', hr, h⟩ := lex_step hok f pos
    obtain ⟨f, rfl⟩ := Nat.exists_eq_add_one_of_ne_zero (Nat.ne_zero_of_lt hf)
    rw [h, ih f _ d' hr (Nat.le_of_succ_le_succ hf)]
    rfl

/-- whichever lexeme comes first, it has a byte (`ok` forbids an empty blank run or word), and what follows is
    well-formed at some depth -/
theorem okL_cons {d : Nat} {x : Lx} {r : List Lx} (h : okL d (x :: r)) : x.bytes ≠ [] ∧ ∃ d', okL d' r := by
  cases x with
  | ws | word => exact ⟨h.1.1, d, h.2⟩
  | lb => exact ⟨List.cons_ne_nil _ _, _, h⟩
  | _ => exact ⟨List.cons_ne_nil _ _, _, h.2⟩

theorem renderL_length_ge : ∀ (L : List Lx) (d : Nat), okL d L → L.length ≤ (renderL L).length
  | [], _, _ => Nat.le_refl _
  | x :: r, d, hok => by
    obtain ⟨hx, d', hr⟩ := okL_cons hok
    rw [renderL, List.length_append, List.length_cons, Nat.add_comm]
    exact Nat.add_le_add (List.length_pos_iff.mpr hx) (renderL_length_ge r d' hr)

theorem lex_render (L : List Lx) (hok : okL 0 L) : lex true (renderL L) = some (itemsFrom 0 L) :=
  lex_lexemes L _ 0 0 hok (Nat.le_succ_of_le (renderL_length_ge L 0 hok))

end YV.Y
