/-
  Proofs.XRun — facts about running the path machine that speak of Model.XPathM alone: `exec` and `execTrace`
  over appended code, a run that succeeds, the two outcomes of a tree callback; a program that ends in `store`
  yields a value or an error, never both and never neither; the first failing instruction decides the error.
-/
import YV.Model.XPathM
import YV.Proofs.Except
namespace YV.XM
open YV YV.X YV.XP

theorem exec_cons (fx : Bool) (t : Tree) (i : PI) (is : List PI) (s : MSt) :
    exec fx t (i :: is) s = step fx t i s >>= fun s' => exec fx t is s' := rfl

theorem exec_append (fx : Bool) (t : Tree) (p q : List PI) (s : MSt) :
    exec fx t (p ++ q) s = (exec fx t p s >>= fun s' => exec fx t q s') := by
  induction p generalizing s with
  | nil => rfl
  | cons i p ih => simp only [List.cons_append, exec_cons, ih, bind_assoc]

theorem exec_append_ok {fx : Bool} {t : Tree} {p : List PI} {s s' : MSt} (q : List PI)
    (h : exec fx t p s = .ok s') : exec fx t (p ++ q) s = exec fx t q s' := by
  rw [exec_append, h]; rfl

theorem execTrace_cons (fx : Bool) (t : Tree) (i : PI) (is : List PI) (s : MSt) :
    execTrace fx t (i :: is) s =
      (match step fx t i s with
       | .ok s' => execTrace fx t is s'
       | .error f => ({ s with trace := f.trace.getD s.trace }, some f.err)) := by rfl

theorem exec_execTrace {fx : Bool} {t : Tree} {p : List PI} {s s' : MSt} (h : exec fx t p s = .ok s') :
    execTrace fx t p s = (s', none) := by
  induction p generalizing s with
  | nil => cases h; rfl
  | cons i p ih =>
    rw [exec_cons, bind_eq_ok] at h
    obtain ⟨s1, hs, h⟩ := h
    rw [execTrace_cons, hs]; exact ih h

theorem run_of_exec {fx : Bool} {t : Tree} {p : List PI} {s' : MSt} (h : exec fx t p {} = .ok s') :
    run fx t p = { value := s'.res, err := none, trace := s'.trace.reverse } := by
  rw [run, exec_execTrace h]

def NoFault (t : Tree) : Prop := t.failAt = 0

theorem callback_ok (t : Tree) (h : NoFault t) (w : String) (s : MSt) :
    callback t w s = .ok { s with trace := w :: s.trace, ncalls := s.ncalls + 1 } := by
  rw [callback, if_neg (by rw [show t.failAt = 0 from h]; exact Bool.false_ne_true)]; rfl

theorem callback_error (t : Tree) (w : String) (s : MSt) (f : Fail) (h : callback t w s = .error f) :
    f.err = .tree s!"injected-fault-{t.failAt}" := by
  rw [callback] at h
  split at h
  · cases h; rfl
  · cases h

theorem execTrace_append (fx : Bool) (t : Tree) (p q : List PI) (s : MSt) :
    execTrace fx t (p ++ q) s =
      (match execTrace fx t p s with
       | (s', some e) => (s', some e)
       | (s', none) => execTrace fx t q s') := by
  induction p generalizing s with
  | nil => rfl
  | cons i p ih =>
    rw [List.cons_append, execTrace_cons, execTrace_cons]
    cases step fx t i s with
    | error f => rfl
    | ok s' => exact ih s'

theorem step_store_res (fx : Bool) (t : Tree) (s s' : MSt) (h : step fx t .store s = .ok s') :
    s'.res.isSome = true := by
  obtain ⟨⟨d, σ⟩, _, h⟩ := bind_eq_ok.mp h
  cases (ite_err_eq_ok.mp h).2; rfl

/-- value xor error, for every program that ends with `store` (every compiled machine does) -/
theorem run_value_xor_error (fx : Bool) (t : Tree) (p : List PI) :
    let o := run fx t (p ++ [.store])
    (o.value.isSome = true ∧ o.err.isNone = true) ∨ (o.value.isNone = true ∧ o.err.isSome = true) := by
  simp only [run, execTrace_append]
  cases execTrace fx t p {} with
  | mk s' e =>
    cases e with
    | some e => exact .inr ⟨rfl, rfl⟩
    | none =>
      simp only [execTrace_cons]
      cases hs : step fx t .store s' with
      | error f => exact .inr ⟨rfl, rfl⟩
      | ok s'' => exact .inl ⟨step_store_res fx t s' s'' hs, rfl⟩

/-- the error a run reports is the error of the first instruction that failed (nothing later replaces it) -/
theorem run_first_error (fx : Bool) (t : Tree) (p q : List PI) (i : PI) (s : MSt) (f : Fail)
    (hp : execTrace fx t p {} = (s, none)) (hi : step fx t i s = .error f) :
    (run fx t (p ++ i :: q)).err = some f.err ∧ (run fx t (p ++ i :: q)).value = none := by
  simp [run, execTrace_append, hp, execTrace_cons, hi]

end YV.XM
