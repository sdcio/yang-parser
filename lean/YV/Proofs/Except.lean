/-
  Proofs.Except — `Except ε`, the monad every model is written in (`M`, `R`, `P` of the XPath models are instances):
  what bind does to a result, and when a computation succeeds: one inversion lemma for each of the three shapes
  the models are written in (`do` steps, `Except.map`, "if the input is bad then an error else go on").
  Used as a `simp only` set on a hypothesis `… = .ok b`, they turn it into the successes it is made of.
  Then `toOption` (forgetting the error) and what a successful `foldlM` keeps.
-/
namespace YV

variable {ε : Type u} {α β : Type v}

theorem ok_bind (a : α) (f : α → Except ε β) : (Except.ok a >>= f) = f a := rfl

theorem error_bind (e : ε) (f : α → Except ε β) : ((Except.error e : Except ε α) >>= f) = .error e := rfl

theorem pure_eq_ok (a : α) : (pure a : Except ε α) = .ok a := rfl

theorem bind_eq_ok {x : Except ε α} {f : α → Except ε β} {b : β} :
    (x >>= f) = .ok b ↔ ∃ a, x = .ok a ∧ f a = .ok b := by
  cases x with
  | error e => exact ⟨nofun, nofun⟩
  | ok a => exact ⟨fun h => ⟨a, rfl, h⟩, fun ⟨_, h, h'⟩ => by cases h; exact h'⟩

theorem map_eq_ok {x : Except ε α} {f : α → β} {b : β} :
    x.map f = .ok b ↔ ∃ a, x = .ok a ∧ f a = b := by
  cases x with
  | error e => exact ⟨nofun, nofun⟩
  | ok a => exact ⟨fun h => ⟨a, rfl, Except.ok.inj h⟩, fun ⟨_, h, h'⟩ => by cases h; exact congrArg _ h'⟩

theorem ite_err_eq_ok {c : Prop} [Decidable c] {e : ε} {x : Except ε α} {b : α} :
    (if c then .error e else x) = .ok b ↔ ¬c ∧ x = .ok b := by
  split
  · exact ⟨nofun, fun h => absurd ‹c› h.1⟩
  · exact ⟨fun h => ⟨‹¬c›, h⟩, fun h => h.2⟩

theorem toOption_eq_some {x : Except ε α} {a : α} : x.toOption = some a ↔ x = .ok a := by
  cases x with
  | error e => exact ⟨nofun, nofun⟩
  | ok b => exact ⟨fun h => congrArg _ (Option.some.inj h), fun h => congrArg _ (Except.ok.inj h)⟩

theorem toOption_map (x : Except ε α) (f : α → β) : (x.map f).toOption = x.toOption.map f := by
  cases x <;> rfl

theorem foldlM_pres {γ : Type w} (P : β → Prop) (step : β → γ → Except ε β)
    (hs : ∀ b c b', step b c = .ok b' → P b → P b') :
    ∀ (l : List γ) (b b' : β), l.foldlM step b = .ok b' → P b → P b'
  | [], b, b', h, hp => by cases h; exact hp
  | c :: r, b, b', h, hp => by
    rw [List.foldlM_cons] at h
    obtain ⟨b1, hst, h⟩ := bind_eq_ok.1 h
    exact foldlM_pres P step hs r b1 b' h (hs b c b1 hst hp)

end YV
