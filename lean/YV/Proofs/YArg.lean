/-
  Proofs.YArg — RFC 6020 §6.1.3 argument decoding: the escapes.
  * the code's Split-on-backslash substitution is the left-to-right scan with the code's table, for every
    text; it equals the specification's scan for every text that does not use `\r`, the one pair the code
    substitutes and the RFC does not define;
  * escaping a value and decoding it gives the value back.
-/
import YV.Spec.YArg
import YV.Proofs.Lists
namespace YV.YS
open YV YV.Y

theorem splitOn92_eq (s : Bytes) : splitOn92 s = s.splitOn 92 :=
  splitLoop_eq 92 splitOn92.go (fun _ _ => rfl) (fun _ _ _ _ => rfl) s [] []

theorem unescape_ne (c : Nat) (r : Bytes) (h : c ≠ 92) : unescape (c :: r) = c :: unescape r :=
  unescape.eq_3 c r (by intro c' r' h1 _; exact h h1)

theorem unescape_pair (c : Nat) (r : Bytes) :
    unescape (92 :: c :: r) =
      if c = 110 then 10 :: unescape r else if c = 116 then 9 :: unescape r
      else if c = 34 then 34 :: unescape r else if c = 92 then 92 :: unescape r else 92 :: c :: unescape r :=
  unescape.eq_2 c r

theorem unescape_no92 (p : Bytes) (h : 92 ∉ p) : unescape p = p := by
  induction p with
  | nil => rfl
  | cons c r ih =>
    rw [List.mem_cons, not_or] at h
    rw [unescape_ne c r (Ne.symm h.1), ih h.2]

theorem hasEscape_ne (cs : List Nat) (c : Nat) (r : Bytes) (h : c ≠ 92) : hasEscape cs (c :: r) = hasEscape cs r :=
  hasEscape.eq_2 cs c r (by intro c' r' h1 _; exact h h1)

/-- the left-to-right scan with the code's table `sMap`: the four escapes of RFC 6020 and `\r` -/
def scanEsc : Bytes → Bytes
  | [] => []
  | 92 :: c :: r => (match escOf c with | some x => [x] | none => [92, c]) ++ scanEsc r
  | c :: r => c :: scanEsc r

theorem scanEsc_ne (c : Nat) (r : Bytes) (h : c ≠ 92) : scanEsc (c :: r) = c :: scanEsc r :=
  scanEsc.eq_3 c r (by intro c' r' h1 _; exact h h1)

theorem scanEsc_append (p x : Bytes) (h : 92 ∉ p) : scanEsc (p ++ x) = p ++ scanEsc x := by
  induction p with
  | nil => rfl
  | cons c r ih =>
    rw [List.mem_cons, not_or] at h
    rw [List.cons_append, scanEsc_ne c _ (Ne.symm h.1), ih h.2, List.cons_append]

/-- the source text that `escapeSubst.go` still has before it when it stands in front of `parts`;
    `esc`: the backslash in front of the next part is still to be read -/
def unreadText (esc : Bool) : List Bytes → Bytes
  | [] => []
  | p :: more => (if esc then 92 :: p else p) ++ unreadText true more

theorem unreadText_false (parts : List Bytes) : unreadText false parts = [92].intercalate parts := by
  induction parts with
  | nil => rfl
  | cons p more ih =>
    cases more with
    | nil => simp [unreadText]
    | cons q m => rw [List.intercalate_cons_cons, ← ih]; simp [unreadText]

/-! The loop of `escapeSubst`, read by what `i` and `skip` stand for: the part at hand either follows a
    backslash that is still to be interpreted (`i > 0` and not `skip`) or is text to be taken as it stands. -/

theorem substGo_plain (i : Nat) (skip : Bool) (rs p : Bytes) (more : List Bytes) (h : (decide (i > 0) && !skip) = false) :
    escapeSubst.go i skip rs (p :: more) = escapeSubst.go (i + 1) false (rs ++ p) more := by
  have h' : (!skip && decide (i > 0)) = false := by rw [Bool.and_comm]; exact h
  cases p <;>
    simp only [escapeSubst.go, h, h', List.isEmpty_nil, List.isEmpty_cons, Bool.false_eq_true, ↓reduceIte, List.append_nil]

/-- a backslash at once after a pending backslash: the pair `\\`; what follows it is plain text -/
theorem substGo_bs (i : Nat) (rs : Bytes) (more : List Bytes) (hi : i > 0) :
    escapeSubst.go i false rs ([] :: more) = escapeSubst.go (i + 1) true (rs ++ [92]) more := by
  simp only [escapeSubst.go, List.isEmpty_nil, Bool.not_false, Bool.true_and, decide_eq_true hi, ↓reduceIte]

theorem substGo_esc (i : Nat) (rs : Bytes) (c : Nat) (tl : Bytes) (more : List Bytes) (hi : i > 0) :
    escapeSubst.go i false rs ((c :: tl) :: more) =
      escapeSubst.go (i + 1) false (rs ++ (match escOf c with | some x => [x] | none => [92, c]) ++ tl) more := by
  simp only [escapeSubst.go, List.isEmpty_cons, Bool.false_eq_true, Bool.not_false, Bool.and_true, decide_eq_true hi,
    ↓reduceIte]
  cases escOf c <;> simp

theorem substGo_eq (parts : List Bytes) (hp : ∀ p ∈ parts, 92 ∉ p) (i : Nat) (skip : Bool) (rs : Bytes)
    (esc : Bool) (he : (decide (i > 0) && !skip) = esc) :
    escapeSubst.go i skip rs parts = rs ++ scanEsc (unreadText esc parts) := by
  induction parts generalizing i skip rs esc with
  | nil => rw [escapeSubst.go, unreadText, scanEsc, List.append_nil]
  | cons p more ih =>
    have hmore : ∀ q ∈ more, 92 ∉ q := fun q hq => hp q (List.mem_cons_of_mem _ hq)
    have hp0 : 92 ∉ p := hp p (List.mem_cons_self ..)
    have next : ∀ rs', escapeSubst.go (i + 1) false rs' more = rs' ++ scanEsc (unreadText true more) :=
      fun rs' => ih hmore (i + 1) false rs' true (by simp)
    cases esc with
    | false =>
      rw [substGo_plain i skip rs p more he, next, unreadText, if_neg (by decide), scanEsc_append p _ hp0,
        List.append_assoc]
    | true =>
      obtain ⟨hi, rfl⟩ : i > 0 ∧ skip = false := by simpa using he
      cases p with
      | nil =>
        have hbs : scanEsc (92 :: unreadText true more) = 92 :: scanEsc (unreadText false more) := by
          cases more <;> rfl
        rw [substGo_bs i rs more hi, ih hmore (i + 1) true _ false (by simp), unreadText, if_pos rfl,
          List.append_assoc]
        exact congrArg (rs ++ ·) hbs.symm
      | cons c tl =>
        have htl : 92 ∉ tl := fun h => hp0 (List.mem_cons_of_mem _ h)
        rw [substGo_esc i rs c tl more hi, next, unreadText, if_pos rfl, List.cons_append, List.cons_append,
          scanEsc.eq_2, scanEsc_append tl _ htl]
        simp only [List.append_assoc]

/-- **`escapeSequenceSubstitution` is the left-to-right scan**, for every text -/
theorem escapeSubst_eq_scanEsc (s : Bytes) : escapeSubst s = scanEsc s := by
  cases s with
  | nil => rfl
  | cons a b =>
    show escapeSubst.go 0 false [] (splitOn92 (a :: b)) = _
    rw [splitOn92_eq, substGo_eq _ (not_mem_of_mem_splitOn 92 _) 0 false [] false rfl, List.nil_append,
      unreadText_false, List.intercalate_splitOn]

/-- the code's table and the RFC's differ in `\r` only -/
theorem scanEsc_eq_unescape (s : Bytes) : hasEscape [114] s = false → scanEsc s = unescape s := by
  refine pair_induction 92 (P := fun s => hasEscape [114] s = false → scanEsc s = unescape s)
    (fun _ => rfl) (fun c r ih h => ?_) (fun _ => rfl) (fun c r hc ih h => ?_) s
  · rw [hasEscape.eq_1, Bool.or_eq_false_iff] at h
    have hr : c ≠ 114 := fun e => by subst e; exact absurd h.1 (by decide)
    rw [scanEsc.eq_2, unescape_pair, ih h.2]
    by_cases h1 : c = 110
    · subst h1; rfl
    by_cases h2 : c = 116
    · subst h2; rfl
    by_cases h3 : c = 34
    · subst h3; rfl
    by_cases h4 : c = 92
    · subst h4; rfl
    rw [escOf, if_neg h1, if_neg hr, if_neg h2, if_neg h3, if_neg h4, if_neg h1, if_neg h2, if_neg h3, if_neg h4]
    rfl
  · rw [scanEsc_ne c r hc, unescape_ne c r hc, ih (by rwa [hasEscape_ne [114] c r hc] at h)]

/-- **`escapeSequenceSubstitution` is the specification's scan** for every text without a `\r` pair
    (RFC 6020 does not define `\r`; the code turns it into CR). -/
theorem escapeSubst_eq_unescape (s : Bytes) (h : hasEscape [114] s = false) : escapeSubst s = unescape s := by
  rw [escapeSubst_eq_scanEsc, scanEsc_eq_unescape s h]

/-- how a value is written inside double quotes: `"` and `\` are escaped; optionally line feed and tab -/
def escapeStr (escWS : Bool) : Bytes → Bytes
  | [] => []
  | c :: r =>
    if c = 34 then 92 :: 34 :: escapeStr escWS r
    else if c = 92 then 92 :: 92 :: escapeStr escWS r
    else if escWS && c = 10 then 92 :: 110 :: escapeStr escWS r
    else if escWS && c = 9 then 92 :: 116 :: escapeStr escWS r
    else c :: escapeStr escWS r

theorem unescape_escapeStr (b : Bool) (v : Bytes) : unescape (escapeStr b v) = v := by
  fun_induction escapeStr b v with
  | case1 => rfl
  | case2 r ih => rw [unescape_pair, ih]; rfl
  | case3 r _ ih => rw [unescape_pair, ih]; rfl
  | case4 c r _ _ h ih => rw [unescape_pair, ih, (by simpa using h : b = true ∧ c = 10).2]; rfl
  | case5 c r _ _ _ h ih => rw [unescape_pair, ih, (by simpa using h : b = true ∧ c = 9).2]; rfl
  | case6 c r _ h92 _ _ ih => rw [unescape_ne c _ h92, ih]

theorem escapeStr_one_line (v : Bytes) : 10 ∉ escapeStr true v := by
  fun_induction escapeStr true v with
  | case1 => exact List.not_mem_nil
  -- a pair is written: neither of its bytes is a line feed
  | case2 | case3 | case4 | case5 => rename_i ih; simpa using ih
  | case6 c r _ _ h10 _ ih => simpa [ih] using Ne.symm (by simpa using h10)

end YV.YS
