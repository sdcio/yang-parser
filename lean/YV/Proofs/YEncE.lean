/-
  Proofs.YEncE — list and leaf-list nodes without entries.  The decoders return such a node for `"ll": []`; the JSON
  writers write it back as an empty array; the XML writer has no way to write one (no element at all).  A tree that
  has such nodes comes back from XML as the tree without them: `dropEmpty`.

  The round trip is that of `Proofs.YEncX` applied to `dropEmpty ks`: the writer writes the same for both, what is
  left is well-formed in the strict sense, and it is no deeper.
-/
import YV.Proofs.YEncX
namespace YV.E
open YV YV.Y YV.SC YV.D

variable {τ : Type}

mutual
/-- the tree without its list / leaf-list nodes that have no entries (at every depth) -/
def dropEmpty (kids : List (SN τ)) : List DN → List DN
  | [] => []
  | d :: r =>
    (match lookup d.name (dataKids kids), d with
     | some (.container _ _ ck), .mk n dk vals => [DN.mk n (dropEmpty ck dk) vals]
     | some (.list _ _ _ _ _ ck), .mk n es vals => if es = [] then [] else [DN.mk n (dropEmptyEntries ck es) vals]
     | some (.leafList ..), .mk n dk vals => if vals = [] then [] else [DN.mk n dk vals]
     | _, d => [d]) ++ dropEmpty kids r
def dropEmptyEntries (kids : List (SN τ)) : List DN → List DN
  | [] => []
  | .mk en ek ev :: r => DN.mk en (dropEmpty kids ek) ev :: dropEmptyEntries kids r
end

mutual
/-- well-formed data for the XML writer, empty lists and leaf-lists admitted (`xwfKids` without `es ≠ []`, `vals ≠ []`) -/
def xwfKids0 (kids : List (SN τ)) : List DN → Prop
  | [] => True
  | d :: r =>
    (∀ e ∈ r, e.name ≠ d.name) ∧
    (match lookup d.name (dataKids kids), d with
     | some (.container _ _ ck), .mk _ dk vals => vals = [] ∧ xwfKids0 ck dk
     | some (.list _ keys _ _ _ ck), .mk _ es vals => vals = [] ∧ xwfEntries0 ck (keys.headD []) es
     | some (.leaf ..), .mk _ dk vals => dk = [] ∧ ∃ v, vals = [v]
     | some (.leafList ..), .mk _ dk _ => dk = []
     | _, _ => False) ∧ xwfKids0 kids r
def xwfEntries0 (kids : List (SN τ)) (key : Tok) : List DN → Prop
  | [] => True
  | .mk en ek ev :: r =>
    ev = [] ∧ xwfKids0 kids ek ∧ keyOf key ek = some en ∧ (∀ e ∈ r, e.name ≠ en) ∧ xwfEntries0 kids key r
end

def dropOne (kids : List (SN τ)) : DN → List DN
  | .mk n dk vals =>
    match kindOf kids n with
    | .container ck => [DN.mk n (dropEmpty ck dk) vals]
    | .list _ ck => if dk = [] then [] else [DN.mk n (dropEmptyEntries ck dk) vals]
    | .leafList _ => if vals = [] then [] else [DN.mk n dk vals]
    | _ => [DN.mk n dk vals]

theorem dropEmpty_nil (kids : List (SN τ)) : dropEmpty kids [] = [] := by rw [dropEmpty.eq_def]

theorem dropEmpty_cons (kids : List (SN τ)) (n : Tok) (dk : List DN) (vals : List Bytes) (r : List DN) :
    dropEmpty kids (.mk n dk vals :: r) = dropOne kids (.mk n dk vals) ++ dropEmpty kids r := by
  rw [dropEmpty.eq_def]
  unfold dropOne kindOf
  dsimp only [DN.name]
  cases lookup n (dataKids kids) with
  | none => rfl
  | some sn => cases sn <;> rfl

theorem dropEntries_nil (kids : List (SN τ)) : dropEmptyEntries kids [] = [] := by rw [dropEmptyEntries.eq_def]

theorem dropEntries_cons (kids : List (SN τ)) (en : Tok) (ek : List DN) (ev : List Bytes) (r : List DN) :
    dropEmptyEntries kids (.mk en ek ev :: r) = DN.mk en (dropEmpty kids ek) ev :: dropEmptyEntries kids r := by
  rw [dropEmptyEntries.eq_def]

theorem dropEntries_map (kids : List (SN τ)) (es : List DN) :
    dropEmptyEntries kids es = es.map fun e => DN.mk e.name (dropEmpty kids e.kids) e.vals := by
  induction es with
  | nil => rw [dropEntries_nil]; rfl
  | cons e r ih => obtain ⟨en, ek, ev⟩ := e; rw [dropEntries_cons, ih]; rfl

theorem dropOne_cases (kids : List (SN τ)) (n : Tok) (dk : List DN) (vals : List Bytes) :
    dropOne kids (.mk n dk vals) = [] ∨ ∃ k, dropOne kids (.mk n dk vals) = [DN.mk n k vals] := by
  dsimp only [dropOne]
  generalize kindOf kids n = k
  cases k with
  | list => exact (Decidable.em (dk = [])).imp (if_pos ·) fun h => ⟨_, if_neg h⟩
  | leafList => exact (Decidable.em (vals = [])).imp (if_pos ·) fun h => ⟨_, if_neg h⟩
  | _ => exact .inr ⟨_, rfl⟩

theorem xwfKids0_nil (kids : List (SN τ)) : xwfKids0 kids [] = True := by rw [xwfKids0.eq_def]

def xwfNode0 (kids : List (SN τ)) : DN → Prop
  | .mk n dk vals =>
    match kindOf kids n with
    | .container ck => vals = [] ∧ xwfKids0 ck dk
    | .list key ck => vals = [] ∧ xwfEntries0 ck key dk
    | .leaf _ => dk = [] ∧ ∃ v, vals = [v]
    | .leafList _ => dk = []
    | .other => False

theorem xwfKids0_cons (kids : List (SN τ)) (n : Tok) (dk : List DN) (vals : List Bytes) (r : List DN) :
    xwfKids0 kids (.mk n dk vals :: r) =
      ((∀ e ∈ r, e.name ≠ n) ∧ xwfNode0 kids (.mk n dk vals) ∧ xwfKids0 kids r) := by
  rw [xwfKids0.eq_def]
  unfold xwfNode0 kindOf
  dsimp only [DN.name]
  cases lookup n (dataKids kids) with
  | none => rfl
  | some sn => cases sn <;> rfl

theorem xencKids_append (kids : List (SN τ)) (a b : List DN) :
    xencKids kids (a ++ b) = xencKids kids a ++ xencKids kids b := by
  simp only [xencKids_flatMap, List.flatMap_append]

theorem xencKids_single (kids : List (SN τ)) (d : DN) : xencKids kids [d] = xblock kids d := by
  rw [xencKids_flatMap]; simp

/-- the XML writer writes nothing for a list / leaf-list node without entries -/
theorem xenc_dropEmpty : ∀ ds : List DN,
    (∀ kids : List (SN τ), xencKids kids (dropEmpty kids ds) = xencKids kids ds) ∧
    (∀ (kids : List (SN τ)) n, xencEntries kids n (dropEmptyEntries kids ds) = xencEntries kids n ds) := by
  refine DN.forest_mk ⟨fun _ => by rw [dropEmpty_nil], fun _ _ => by rw [dropEntries_nil]⟩
    fun n dk vals r hd hr => ⟨fun kids => ?_, fun kids m => ?_⟩
  · rw [dropEmpty_cons, xencKids_append, hr.1, xencKids_cons]
    congr 1
    dsimp only [dropOne, xblock]
    generalize hk : kindOf kids n = k
    cases k with
    | container => simp only [xencKids_single, xblock, hk, hd.1]
    | list =>
      dsimp only
      split
      · subst dk; rw [xencKids_nil, xencEntries.eq_def]
      · simp only [xencKids_single, xblock, hk, hd.2]
    | leafList =>
      dsimp only
      split
      · subst vals; rw [xencKids_nil, List.map_nil]
      · simp only [xencKids_single, xblock, hk]
    | _ => simp only [xencKids_single, xblock, hk]
  · rw [dropEntries_cons, xencEntries_cons, xencEntries_cons, hd.1, hr.2]

theorem xencKids_dropEmpty (kids : List (SN τ)) (ds : List DN) :
    xencKids kids (dropEmpty kids ds) = xencKids kids ds :=
  (xenc_dropEmpty ds).1 kids

theorem xencEntries_dropEmpty (kids : List (SN τ)) (n : Tok) (es : List DN) :
    xencEntries kids n (dropEmptyEntries kids es) = xencEntries kids n es :=
  (xenc_dropEmpty es).2 kids n

theorem max_le_max {a b c d : Nat} (h1 : a ≤ c) (h2 : b ≤ d) : max a b ≤ max c d :=
  Nat.max_le.2 ⟨Nat.le_trans h1 (Nat.le_max_left c d), Nat.le_trans h2 (Nat.le_max_right c d)⟩

theorem dDepthL_drop : ∀ ds : List DN,
    (∀ kids : List (SN τ), dDepthL (dropEmpty kids ds) ≤ dDepthL ds) ∧
    (∀ kids : List (SN τ), dDepthL (dropEmptyEntries kids ds) ≤ dDepthL ds) := by
  refine DN.forest_mk ⟨fun _ => by rw [dropEmpty_nil]; exact Nat.le_refl _,
      fun _ => by rw [dropEntries_nil]; exact Nat.le_refl _⟩
    fun n dk vals r hd hr => ⟨fun kids => ?_, fun kids => ?_⟩
  · rw [dropEmpty_cons, dDepthL_append, dDepthL_cons]
    refine max_le_max ?_ (hr.1 kids)
    dsimp only [dropOne]
    generalize kindOf kids n = k
    cases k with
    | container => rw [dDepthL_single, dDepth, dDepth]; exact Nat.add_le_add_left (hd.1 _) 1
    | list =>
      dsimp only
      split
      · exact Nat.zero_le _
      · rw [dDepthL_single, dDepth, dDepth]; exact Nat.add_le_add_left (hd.2 _) 1
    | leafList =>
      dsimp only
      split
      · exact Nat.zero_le _
      · rw [dDepthL_single]; exact Nat.le_refl _
    | _ => rw [dDepthL_single]; exact Nat.le_refl _
  · rw [dropEntries_cons, dDepthL_cons, dDepthL_cons, dDepth, dDepth]
    exact max_le_max (Nat.add_le_add_left (hd.1 kids) 1) (hr.2 kids)

theorem dDepthL_dropEmpty (kids : List (SN τ)) (ds : List DN) : dDepthL (dropEmpty kids ds) ≤ dDepthL ds :=
  (dDepthL_drop ds).1 kids

theorem dDepthL_dropEntries (kids : List (SN τ)) (es : List DN) :
    dDepthL (dropEmptyEntries kids es) ≤ dDepthL es :=
  (dDepthL_drop es).2 kids

theorem dropEmpty_name_ne (kids : List (SN τ)) (x : Tok) (ds : List DN) (h : ∀ e ∈ ds, e.name ≠ x) :
    ∀ e ∈ dropEmpty kids ds, e.name ≠ x := by
  induction ds with
  | nil => rw [dropEmpty_nil]; exact fun _ he => nomatch he
  | cons d r ih =>
    obtain ⟨n, dk, vals⟩ := d
    obtain ⟨h1, h2⟩ := List.forall_mem_cons.1 h
    rw [dropEmpty_cons, List.forall_mem_append]
    refine ⟨?_, ih h2⟩
    rcases dropOne_cases kids n dk vals with h0 | ⟨k, h0⟩ <;> rw [h0]
    · exact fun _ he => nomatch he
    · exact List.forall_mem_singleton.2 h1

theorem dropEntries_name_ne (kids : List (SN τ)) (x : Tok) (es : List DN) (h : ∀ e ∈ es, e.name ≠ x) :
    ∀ e ∈ dropEmptyEntries kids es, e.name ≠ x := by
  rw [dropEntries_map]; exact List.forall_mem_map.2 h

theorem dropEntries_ne_nil (kids : List (SN τ)) (es : List DN) (h : es ≠ []) : dropEmptyEntries kids es ≠ [] := by
  rw [dropEntries_map]; exact mt List.map_eq_nil_iff.1 h

theorem keyOf_cons (key n : Tok) (k : List DN) (v : List Bytes) (r : List DN) :
    keyOf key (.mk n k v :: r) = if n = key then v.head? else keyOf key r := by
  unfold keyOf
  rw [List.find?_cons]
  by_cases h : n = key
  · simp [DN.name, DN.vals, h]
  · simp [DN.name, h]

theorem dropOne_nil_vals (kids : List (SN τ)) (n : Tok) (dk : List DN) (vals : List Bytes)
    (h : xwfNode0 kids (.mk n dk vals)) (hd : dropOne kids (.mk n dk vals) = []) : vals = [] := by
  dsimp only [xwfNode0, dropOne] at h hd
  generalize kindOf kids n = k at h hd
  cases k with
  | list => exact h.1
  | leafList => exact Decidable.by_contra fun hv => List.cons_ne_nil _ _ ((if_neg hv).symm.trans hd)
  | other => exact h.elim
  | _ => cases hd

/-- the key leaf of an entry is not dropped -/
theorem keyOf_dropEmpty (kids : List (SN τ)) (key en : Tok) (ek : List DN) (h : xwfKids0 kids ek)
    (hk : keyOf key ek = some en) : keyOf key (dropEmpty kids ek) = some en := by
  induction ek with
  | nil => rw [dropEmpty_nil]; exact hk
  | cons d r ih =>
    obtain ⟨n, dk, vals⟩ := d
    rw [xwfKids0_cons] at h
    rw [dropEmpty_cons]
    rw [keyOf_cons] at hk
    by_cases hn : n = key
    · rw [if_pos hn] at hk
      rcases dropOne_cases kids n dk vals with h0 | ⟨k, h1⟩
      · rw [dropOne_nil_vals kids n dk vals h.2.1 h0] at hk
        cases hk
      · rw [h1, List.singleton_append, keyOf_cons, if_pos hn]
        exact hk
    · rw [if_neg hn] at hk
      have := ih h.2.2 hk
      rcases dropOne_cases kids n dk vals with h0 | ⟨k, h1⟩
      · rw [h0, List.nil_append]; exact this
      · rw [h1, List.singleton_append, keyOf_cons, if_neg hn]
        exact this

theorem xwf_dropEmpty : ∀ ds : List DN,
    (∀ kids : List (SN τ), xwfKids0 kids ds → xwfKids kids (dropEmpty kids ds)) ∧
    (∀ (kids : List (SN τ)) key, xwfEntries0 kids key ds → xwfEntries kids key (dropEmptyEntries kids ds)) := by
  refine DN.forest_mk ⟨fun _ _ => by rw [dropEmpty_nil, xwfKids_nil]; trivial,
      fun _ _ _ => by rw [dropEntries_nil, xwfEntries.eq_def]; trivial⟩
    fun n dk vals r hd hr => ⟨fun kids h => ?_, fun kids key h => ?_⟩
  · rw [xwfKids0_cons] at h
    obtain ⟨h1, h2, h3⟩ := h
    have ih := hr.1 kids h3
    -- a node that is kept stands before what is left of its siblings
    have keep : ∀ dk', xwfNode kids (.mk n dk' vals) → xwfKids kids ([DN.mk n dk' vals] ++ dropEmpty kids r) :=
      fun dk' h => by
        rw [List.singleton_append, xwfKids_cons]; exact ⟨dropEmpty_name_ne kids n r h1, h, ih⟩
    rw [dropEmpty_cons]
    dsimp only [dropOne, xwfNode0, xwfNode] at h2 keep ⊢
    generalize kindOf kids n = k at h2 keep ⊢
    cases k with
    | container => exact keep _ ⟨h2.1, hd.1 _ h2.2⟩
    | list =>
      dsimp only
      split
      · exact ih
      · rename_i hne
        exact keep _ ⟨h2.1, dropEntries_ne_nil _ dk hne, hd.2 _ _ h2.2⟩
    | leaf => exact keep _ h2
    | leafList =>
      dsimp only
      split
      · exact ih
      · rename_i hne
        exact keep _ ⟨h2, hne⟩
    | other => exact h2.elim
  · rw [xwfEntries0.eq_def] at h
    obtain ⟨hv, hk, hkey, hne, hwr⟩ := h
    rw [dropEntries_cons, xwfEntries.eq_def]
    exact ⟨hv, hd.1 kids hk, keyOf_dropEmpty kids key n dk hk hkey, dropEntries_name_ne kids n r hne,
      hr.2 kids key hwr⟩

theorem xwfKids_dropEmpty (kids : List (SN τ)) (ds : List DN) (h : xwfKids0 kids ds) :
    xwfKids kids (dropEmpty kids ds) :=
  (xwf_dropEmpty ds).1 kids h

theorem xwfEntries_dropEmpty (kids : List (SN τ)) (key : Tok) (es : List DN) (h : xwfEntries0 kids key es) :
    xwfEntries kids key (dropEmptyEntries kids es) :=
  (xwf_dropEmpty es).2 kids key h

/-- **round trip, XML, with empty lists and leaf-lists**: the tree comes back without them -/
theorem xml_roundtrip_dropEmpty (top : List (SN τ)) (rn : Tok) (ks : List DN) (hwf : xwfKids0 top ks)
    (fuel : Nat) (hf : dDepthL ks < fuel) :
    fromX top fuel (toX top (.mk rn ks [])) = some (.mk rn (dropEmpty top ks) []) := by
  -- the plain round trip of `dropEmpty top ks`, for which the writer writes the same
  have h := xdec_kids fuel top _ (xwfKids_dropEmpty top ks hwf) (Nat.lt_of_le_of_lt (dDepthL_dropEmpty top ks) hf)
  rw [xencKids_dropEmpty] at h
  exact congrArg (Option.map fun ds => DN.mk rn ds []) h

end YV.E

#print axioms YV.E.xml_roundtrip_dropEmpty
