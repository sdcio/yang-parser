/-
  Proofs.Forest — forest induction for the nested tree types: a statement about lists of nodes, from the empty
  list and from a node's children together with its later siblings.
-/
import YV.Model.YData
namespace YV
open YV.SC YV.D

theorem SC.SN.forest {τ : Type} {Q : List (SN τ) → Prop} (nil : Q [])
    (cons : ∀ x r, Q x.kids → Q r → Q (x :: r)) : ∀ l, Q l :=
  SN.rec_1 (motive_1 := fun x => Q x.kids) (motive_2 := Q) (fun _ _ _ ih => ih) (fun _ _ _ _ _ _ ih => ih)
    (fun _ _ _ _ => nil) (fun _ _ _ _ => nil) (fun _ _ _ _ ih => ih) (fun _ _ ih => ih) nil cons

theorem D.DN.forest {Q : List DN → Prop} (nil : Q []) (cons : ∀ x r, Q x.kids → Q r → Q (x :: r)) : ∀ l, Q l :=
  DN.rec_1 (motive_1 := fun x => Q x.kids) (motive_2 := Q) (fun _ _ _ ih => ih) nil cons

theorem D.DN.forest_mk {Q : List DN → Prop} (nil : Q [])
    (cons : ∀ n k v r, Q k → Q r → Q (.mk n k v :: r)) : ∀ l, Q l :=
  DN.forest nil fun | .mk n k v, r => cons n k v r

end YV
