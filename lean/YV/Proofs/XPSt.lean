/-
  Proofs.XPSt — the parser state `PSt` as the proofs about the two parsers see it: its tokens (`tk`), how many
  are left, and what the lookahead token says about them.
-/
import YV.Model.XParse
namespace YV.XP
open YV YV.X YV.XL

def tk (s : PSt) : List Tok := s.toks.map (·.tok)

theorem peek_tk (s : PSt) : peekTok s = (tk s).headD .eof := by
  unfold peekTok tk; cases s.toks <;> rfl

theorem peek_cons {s : PSt} {t : Tok} {r : List Tok} (h : tk s = t :: r) : peekTok s = t := by
  rw [peek_tk, h]; rfl

theorem tk_adv (s : PSt) : tk (adv s) = (tk s).drop 1 := by
  simp [tk, adv]

theorem tk_emit (s : PSt) (i : PI) : tk (emit s i) = tk s := rfl

theorem len_adv (s : PSt) : (adv s).toks.length ≤ s.toks.length := by
  rw [adv, List.length_drop]; exact Nat.sub_le _ _
theorem len_emit (s : PSt) (i : PI) : (emit s i).toks.length = s.toks.length := rfl
theorem len_setErr (s : PSt) (m : String) : (setErr s m).toks.length = s.toks.length := rfl

theorem toks_of_peek {s : PSt} {t : Tok} (h : peekTok s = t) (ht : t ≠ .eof) :
    ∃ lt, lt.tok = t ∧ s.toks = lt :: (adv s).toks := by
  unfold peekTok at h
  cases hs : s.toks with
  | nil => rw [hs] at h; exact absurd h.symm ht
  | cons a r => rw [hs] at h; exact ⟨a, h, by simp [adv, hs]⟩

theorem tk_of_peek {s : PSt} {t : Tok} (h : peekTok s = t) (ht : t ≠ .eof) : tk s = t :: tk (adv s) := by
  obtain ⟨lt, h1, h2⟩ := toks_of_peek h ht
  rw [tk, h2, List.map_cons, h1]; rfl

end YV.XP
