/-
  Proofs.XBytes — byte accounting of the XPath lexer: what `CommonLex.Error` takes for the unread rest of the
  expression (after the repair: a read-ahead invalid byte counts as the one byte it is) never exceeds the
  expression, so the position the error text marks lies inside the expression and `CreateProgram` cannot
  slice out of bounds.
-/
import YV.Proofs.XBuild
import YV.Proofs.XLexBase
namespace YV.XL
open YV YV.X

/-- bytes `restLen true` counts for a peeked rune -/
def pb (c : Rune) : Nat := if c = 0 then 0 else if c = ERR then 1 else encLen c

def sumW (l : List SrcRune) : Nat := (l.map (·.w)).sum

theorem sumW_cons (r : SrcRune) (t : List SrcRune) : sumW (r :: t) = r.w + sumW t := rfl

theorem restLen_eq (s : LexSt) : restLen true s = pb s.peek + sumW s.line := by
  unfold restLen pb sumW
  rw [List.sum_eq_foldl, List.foldl_map]
  simp

/-- a source rune gives back at most the bytes it was read from -/
def WFr (r : SrcRune) : Prop := 1 ≤ r.w ∧ pb r.cp ≤ r.w

/-- `pb` never exceeds `encLen`: it is 0 for no rune and 1 for `ERR`, which `encLen` would re-encode in 3 bytes -/
theorem pb_le {c : Rune} {k : Nat} (h : encLen c ≤ k) : pb c ≤ k := by
  unfold pb
  split
  · exact Nat.zero_le _
  · split
    · subst c; exact Nat.le_trans (by decide) h
    · exact h

/- the UTF-8 length classes: with the bound on `c` put in, every leaf of `encLen` that is left is small enough -/
theorem encLen_le1 (c : Nat) (h : c < 128) : encLen c ≤ 1 := by
  unfold encLen; simp only [h, if_true, Nat.le_refl]
theorem encLen_le2 (c : Nat) (h : c < 2048) : encLen c ≤ 2 := by
  unfold encLen; simp only [h, if_true, apply_ite (· ≤ 2), Nat.reduceLeDiff, ite_self]
theorem encLen_le3 (c : Nat) (h : c < 65536) : encLen c ≤ 3 := by
  unfold encLen; simp only [h, if_true, apply_ite (· ≤ 3), Nat.reduceLeDiff, Nat.le_refl, ite_self]
theorem encLen_le4 (c : Nat) : encLen c ≤ 4 := by
  unfold encLen; simp only [apply_ite (· ≤ 4), Nat.reduceLeDiff, ite_self]
theorem pb_ERR : pb ERR ≤ 1 := by simp [pb, ERR]
theorem pb_zero : pb 0 = 0 := rfl

/-- a result of `decodeOne` on `bs`, with what makes it a good one -/
theorem decoded {bs rest' rest : List Nat} {r' r : SrcRune} (hw : WFr r') (hl : rest'.length + r'.w = bs.length)
    (h : some (r', rest') = some (r, rest)) : WFr r ∧ rest.length + r.w = bs.length := by
  cases h; exact ⟨hw, hl⟩

/- the code point of a two- or three-byte sequence is as small as its length class: each summand is at its largest
   (no lower bound on the bytes is needed, `-` truncates) -/
theorem cp2_lt {a b : Nat} (ha : a ≤ 223) (hb : b ≤ 191) : (a - 192) * 64 + (b - 128) < 2048 :=
  Nat.lt_succ_of_le
    (Nat.add_le_add (Nat.mul_le_mul_right 64 (Nat.sub_le_sub_right ha 192)) (Nat.sub_le_sub_right hb 128))
theorem cp3_lt {a b c : Nat} (ha : a ≤ 239) (hb : b ≤ 191) (hc : c ≤ 191) :
    (a - 224) * 4096 + (b - 128) * 64 + (c - 128) < 65536 :=
  Nat.lt_succ_of_le
    (Nat.add_le_add (Nat.add_le_add (Nat.mul_le_mul_right 4096 (Nat.sub_le_sub_right ha 224))
      (Nat.mul_le_mul_right 64 (Nat.sub_le_sub_right hb 128))) (Nat.sub_le_sub_right hc 128))

theorem decodeOne_spec (bs : List Nat) (r : SrcRune) (rest : List Nat) (h : decodeOne bs = some (r, rest)) :
    WFr r ∧ rest.length + r.w = bs.length := by
  revert h
  -- case1: no byte; case2: ASCII; case3, case6, case9: a well-formed sequence of 2, 3, 4 bytes; every other case
  -- is the invalid-byte result `(⟨ERR, 1⟩, tail)`
  fun_cases decodeOne bs
  case case1 => exact nofun
  case case2 b0 t h1 => exact decoded ⟨Nat.le_refl _, pb_le (encLen_le1 _ h1)⟩ rfl
  case case3 b0 cont _ h2 b1 t hc =>
    simp only [cont, Bool.and_eq_true, decide_eq_true_eq] at h2 hc
    exact decoded ⟨(by decide : 1 ≤ 2), pb_le (encLen_le2 _ (cp2_lt h2.2 hc.2))⟩ rfl
  case case6 b0 cont _ _ h3 b1 b2 t lo hi hc =>
    have hhi : hi ≤ 191 := by unfold hi; split <;> decide
    simp only [cont, Bool.and_eq_true, decide_eq_true_eq] at h3 hc
    exact decoded ⟨(by decide : 1 ≤ 3), pb_le (encLen_le3 _ (cp3_lt h3.2 (Nat.le_trans hc.1.2 hhi) hc.2.2))⟩ rfl
  -- four bytes need no bound, `encLen_le4` holds of every rune
  case case9 => exact decoded ⟨(by decide : 1 ≤ 4), pb_le (encLen_le4 _)⟩ rfl
  all_goals exact decoded ⟨Nat.le_refl _, pb_ERR⟩ rfl

theorem decodeAux_spec (f : Nat) (bs : List Nat) :
    (∀ r ∈ decodeAux f bs, WFr r) ∧ sumW (decodeAux f bs) ≤ bs.length := by
  -- case1: no fuel; case2: no byte left; case3: `r` decoded, then `rest`
  fun_induction decodeAux f bs with
  | case1 => exact ⟨List.forall_mem_nil _, Nat.zero_le _⟩
  | case2 => exact ⟨List.forall_mem_nil _, Nat.zero_le _⟩
  | case3 f bs r rest h ih =>
    obtain ⟨hw, hl⟩ := decodeOne_spec bs r rest h
    exact ⟨List.forall_mem_cons.mpr ⟨hw, ih.1⟩,
      Nat.le_trans (Nat.add_le_add_left ih.2 r.w) (Nat.le_of_eq ((Nat.add_comm _ _).trans hl))⟩

/-- the lexer state owes at most `N` bytes, and every rune still to be read is well-formed -/
def Le (N : Nat) (s : LexSt) : Prop := (∀ r ∈ s.line, WFr r) ∧ restLen true s ≤ N

theorem Le_init (bs : List Nat) : Le bs.length { line := decode bs } := by
  have := decodeAux_spec bs.length bs
  refine ⟨this.1, ?_⟩
  rw [restLen_eq]
  exact Nat.le_trans (Nat.le_of_eq (Nat.zero_add _)) this.2

theorem next_peek (s : LexSt) : (next s).2.peek = 0 := by
  fun_cases next s
  · rfl
  · exact Decidable.of_not_not ‹_›
  · exact Decidable.of_not_not ‹_›

/-- `next`: what it hands out, it has taken off the account -/
theorem next_spec (N : Nat) (s : LexSt) (h : Le N s) :
    (∀ r ∈ (next s).2.line, WFr r) ∧ sumW (next s).2.line + pb (next s).1 ≤ N := by
  obtain ⟨hw, hl⟩ := h
  rw [restLen_eq] at hl
  -- case1: the peeked rune; case2: end of input (`pb EOF` is 0); case3: the rune `r` off the line
  fun_cases next s
  case case1 => exact ⟨hw, Nat.le_trans (Nat.le_of_eq (Nat.add_comm _ _)) hl⟩
  case case2 => exact ⟨hw, Nat.le_trans (Nat.le_add_left _ _) hl⟩
  case case3 _ r rest hline =>
    rw [hline] at hw hl
    rw [sumW_cons] at hl
    obtain ⟨hr, hrest⟩ := List.forall_mem_cons.mp hw
    have hpb : pb (if r.cp = 0 then ERR else r.cp) ≤ r.w := by
      split
      · exact Nat.le_trans pb_ERR hr.1
      · exact hr.2
    refine ⟨hrest, ?_⟩
    calc sumW rest + pb _ ≤ sumW rest + r.w := Nat.add_le_add_left hpb _
      _ = r.w + sumW rest := Nat.add_comm _ _
      _ ≤ pb s.peek + (r.w + sumW rest) := Nat.le_add_left _ _
      _ ≤ N := hl

theorem Le_next (N : Nat) (s : LexSt) (h : Le N s) : Le N (next s).2 := by
  obtain ⟨h1, h2⟩ := next_spec N s h
  refine ⟨h1, ?_⟩
  rw [restLen_eq, next_peek, pb_zero, Nat.zero_add]
  exact Nat.le_trans (Nat.le_add_right _ _) h2

/-- putting back the rune that `next` has just handed out (possibly noting an error) stays within the account -/
theorem Le_unread (N : Nat) (s : LexSt) (h : Le N s) (e : Option String) :
    Le N (setPeek { (next s).2 with err := e } (next s).1) := by
  obtain ⟨h1, h2⟩ := next_spec N s h
  refine ⟨h1, ?_⟩
  rw [restLen_eq]
  exact Nat.le_trans (Nat.le_of_eq (Nat.add_comm _ _)) h2

theorem Le_err (N : Nat) (s : LexSt) (h : Le N s) (e : Option String) : Le N { s with err := e } := h
theorem Le_prec (N : Nat) (s : LexSt) (h : Le N s) (p : Option Tok) : Le N { s with prec := p } := h
theorem Le_err_iff (N : Nat) (s : LexSt) (e : Option String) : Le N { s with err := e } ↔ Le N s := Iff.rfl

/-- `Le` of the state that a lexer function returns beside its token -/
def LeP (N : Nat) (x : Tok × LexSt) : Prop := Le N x.2

theorem LeP_mk (N : Nat) (t : Tok) (s : LexSt) (h : Le N s) : LeP N (t, s) := h
theorem LeP_iff (N : Nat) (t : Tok) (s : LexSt) : LeP N (t, s) ↔ Le N s := Iff.rfl

/- Every lexer function is a tree of `if`s with leaves `(result, state)`.  The leaves are visited by rewriting (as
   in `lexNameCommon_tok`): push `LeP N` to the leaves (`↓apply_ite`: before the branches are looked at, so that
   each is visited once), and close each leaf with the lemma of the function that made its state. -/
theorem Le_constructToken_go (N : Nat) (m : Rune → Bool) (tn : String) (fuel : Nat) (acc : List Rune) (s : LexSt)
    (h : Le N s) : Le N (constructToken.go m tn fuel acc s).2 := by
  induction fuel generalizing acc s with
  | zero => exact h
  | succ f ih =>
    dsimp only [constructToken.go]
    simp only [↓apply_ite fun r : List Rune × LexSt => Le N r.2, Le_unread N s h, ih _ _ (Le_next N s h), ite_self]

theorem Le_constructToken (N : Nat) (c : Rune) (m : Rune → Bool) (tn : String) (s : LexSt) (h : Le N s) :
    Le N (constructToken c m tn s).2 := by
  unfold constructToken
  exact Le_constructToken_go N m tn _ _ s h

theorem Le_nextNonWS_go (N : Nat) (f : Nat) (c : Rune) (s : LexSt) (h : Le N s) : Le N (nextNonWS.go f c s).2 := by
  induction f generalizing c s with
  | zero => exact h
  | succ f ih =>
    dsimp only [nextNonWS.go]
    simp only [↓apply_ite fun r : Rune × LexSt => Le N r.2, ih _ _ (Le_next N s h), h, ite_self]

theorem Le_nextNonWS (N : Nat) (s : LexSt) (h : Le N s) : Le N (nextNonWS s).2 := by
  unfold nextNonWS
  exact Le_nextNonWS_go N _ _ _ (Le_next N s h)

theorem Le_lexNameCommon (N : Nat) (strict : Bool) (pm : PfxMap) (c : Rune) (s : LexSt) (h : Le N s) :
    LeP N (lexNameCommon strict pm c s) := by
  have hct := Le_constructToken N c nameCharCommon "NAME" s h
  unfold lexNameCommon
  generalize constructToken c nameCharCommon "NAME" s = ct at hct
  obtain ⟨name, st⟩ := ct
  dsimp -zeta only at hct ⊢
  extract_lets generic fin tight
  have hgen : LeP N generic := by
    unfold generic
    cases lookupFn name <;> exact hct
  have hfin : ∀ p l s, Le N s → LeP N (fin p l s) := by
    intro p l s hs
    simp only [fin, apply_ite (LeP N), LeP_iff, Le_err_iff, hs, ite_self]
  clear_value generic fin tight
  simp only [↓apply_ite (LeP N), LeP_iff, Le_err_iff, Le_constructToken, Le_nextNonWS, hfin, hgen, hct, ite_self]

theorem Le_lexNameLeafref (N : Nat) (strict : Bool) (pm : PfxMap) (c : Rune) (s : LexSt) (h : Le N s) :
    LeP N (lexNameLeafref strict pm c s) := by
  unfold lexNameLeafref
  simp only [↓apply_ite (LeP N), LeP_iff, Le_err_iff, Le_constructToken, Le_nextNonWS, h, ite_self]

theorem Le_lexTok (N : Nat) (strict : Bool) (g : Grammar) (pm : PfxMap) (c : Rune) (s : LexSt) (h : Le N s) :
    LeP N (lexTok strict g pm c s) := by
  have hnc := Le_lexNameCommon N strict pm c s h
  have hnl := Le_lexNameLeafref N strict pm c s h
  unfold lexTok
  extract_lets lexNum
  have hnum : ∀ c s, Le N s → LeP N (lexNum c s) := by
    intro c s hs
    dsimp only [lexNum]
    cases parseGoFloat (constructToken c isNumChar "NUM" s).1 <;>
      simp only [↓apply_ite (LeP N), LeP_iff, Le_err_iff, Le_constructToken, hs, ite_self]
  clear_value lexNum
  simp only [↓apply_ite (LeP N), LeP_iff, Le_err_iff, Le_constructToken, Le_next, Le_unread N s h, hnum, hnc, hnl, h,
    ite_self]

theorem Le_skip (N : Nat) (f : Nat) (s : LexSt) (h : Le N s) : Le N (lexCommon.skip f s).2 := by
  induction f generalizing s with
  | zero => exact Le_next N s h
  | succ f ih =>
    dsimp only [lexCommon.skip]
    simp only [↓apply_ite fun r : Rune × LexSt => Le N r.2, ih _ (Le_next N s h), Le_next N s h, ite_self]

theorem Le_lexCommon (N : Nat) (strict : Bool) (g : Grammar) (pm : PfxMap) (s : LexSt) (h : Le N s) :
    Le N (lexCommon strict g pm s).2 := by
  have h2 : Le N _ :=
    Le_lexTok N strict g pm (lexCommon.skip (s.line.length + 2) s).1 _ (Le_skip N (s.line.length + 2) s h)
  unfold lexCommon
  simp only [apply_ite (Le N), Le_prec, h2, ite_self]

/-- **every token knows a rest that lies inside the expression** -/
theorem lexAll_rest (strict : Bool) (g : Grammar) (pm : PfxMap) (bs : List Nat) :
    ∀ lt ∈ (lexAll strict g pm bs).1, lt.restFixed ≤ bs.length :=
  lexAllAux_all strict g pm (Le bs.length) (fun lt => lt.restFixed ≤ bs.length)
    (fun s h => ⟨Le_lexCommon _ strict g pm s h, (Le_lexCommon _ strict g pm s h).2⟩) _ _ (Le_init bs)

end YV.XL

namespace YV.XP
open YV YV.X YV.XL

/-- the index marked for a token whose rest lies inside the expression lies inside it too -/
theorem mark_inside {n rest : Nat} (h : rest ≤ n) :
    0 ≤ Int.ofNat n - Int.ofNat rest ∧ Int.ofNat n - Int.ofNat rest ≤ Int.ofNat n :=
  ⟨Int.sub_nonneg_of_le (Int.ofNat_le.mpr h), Int.sub_le_self _ (Int.natCast_nonneg _)⟩

/-- **after the repair the marked position lies inside the expression**: building never panics, and an error
    marks an index between 0 and the length of the expression -/
theorem build_mark (strict : Bool) (g : Grammar) (pm : PfxMap) (bs : List Nat) :
    (∀ why, build strict true g pm bs ≠ .panic why) ∧
    (∀ mark kind, build strict true g pm bs = .error mark kind → 0 ≤ mark ∧ mark ≤ bs.length) := by
  have hrest := lexAll_rest strict g pm bs
  have hof := build_of strict true g pm bs
  generalize parseToks strict g (lexAll strict g pm bs).1 = r at hof
  have hle : ∀ rest, (rest = 0 ∨ ∃ t ∈ (lexAll strict g pm bs).1, rest = t.restFixed) → rest ≤ bs.length := by
    rintro _ (rfl | ⟨t, ht, rfl⟩)
    · exact Nat.zero_le _
    · exact hrest t ht
  refine ⟨fun why h => ?_, fun mark kind h => ?_⟩ <;> rw [h] at hof
  · cases hof with
    | panic pos af rest hr hm => exact absurd hm (Int.not_lt.mpr (mark_inside (hle rest hr)).1)
  · cases hof with
    | empty => exact ⟨Int.le_refl _, Int.natCast_nonneg _⟩
    | syn pos af rest _ hr => exact mark_inside (hle rest hr)
    | perr s m => exact ⟨Int.natCast_nonneg _, Int.le_refl _⟩

end YV.XP
