/-
  Proofs.YLayout — the layout rules of double-quoted strings (RFC 6020 §6.1.3).  The specification's reading of
  the source — trailing blanks before a line break removed, indentation of continuation lines removed up to
  the column of the opening quote, a tab counting eight columns — is named `layout`; the line loop of
  parse.go's decoder (`trimWhitespace`, with its index bookkeeping, CR handling and empty-line cases) is that
  function applied to the substituted text, for every text, every quote column ≥ 1 and every arrangement of
  lines.  The code's column stripping (`trimLeadWS`) is the specification's.
-/
import YV.Proofs.YArg
namespace YV.YS
open YV YV.Y

theorem splitLF_eq (s : Bytes) : splitLF s = s.splitOn 10 :=
  splitLoop_eq 10 splitLF.go (fun _ _ => rfl) (fun _ _ _ _ => rfl) s [] []

theorem splitLF_nil : splitLF [] = [[]] := rfl

theorem splitLF_cons (c : Nat) (r : Bytes) :
    splitLF (c :: r) = if c = 10 then [] :: splitLF r else (splitLF r).modifyHead (c :: ·) := by
  simp only [splitLF_eq, List.splitOn_cons_eq_if_modifyHead, beq_iff_eq]

theorem splitLF_one_line (s : Bytes) (h : 10 ∉ s) : splitLF s = [s] := by
  rw [splitLF_eq, List.splitOn_eq_singleton h]

def blank (c : Nat) : Bool := c = 32 || c = 9

theorem blank_eq_false (c : Nat) : blank c = false ↔ c ≠ 32 ∧ c ≠ 9 := by
  simp only [blank, Bool.or_eq_false_iff, decide_eq_false_iff_not, ne_eq]

theorem stripColumns_stop (col w c : Nat) (r : Bytes) (h : col ≤ w ∨ blank c = false) :
    stripColumns col w (c :: r) = c :: r := by
  rw [stripColumns]
  by_cases hw : w ≥ col
  · rw [if_pos hw]
  · have hb := (blank_eq_false c).mp (h.resolve_left hw)
    rw [if_neg hw, if_neg hb.1, if_neg hb.2]

theorem stripColumns_ge (col w : Nat) (l : Bytes) (h : col ≤ w) : stripColumns col w l = l := by
  cases l with
  | nil => rfl
  | cons c r => exact stripColumns_stop col w c r (.inl h)

theorem stripColumns_sp (col w : Nat) (r : Bytes) (h : w < col) :
    stripColumns col w (32 :: r) = stripColumns col (w + 1) r := by
  rw [stripColumns, if_neg (Nat.not_le.mpr h), if_pos rfl]

theorem stripColumns_tab (col w : Nat) (r : Bytes) (h : w < col) :
    stripColumns col w (9 :: r) =
      if w + 8 > col then List.replicate (w + 8 - col) 32 ++ r else stripColumns col (w + 8) r := by
  rw [stripColumns, if_neg (Nat.not_le.mpr h), if_neg (by decide), if_pos rfl]

/-- the three branches of `stripColumns` on `c :: r` -/
theorem blank_cases (col w c : Nat) : (col ≤ w ∨ blank c = false) ∨ (w < col ∧ c = 32) ∨ (w < col ∧ c = 9) := by
  rcases Nat.lt_or_ge w col with hw | hw
  · by_cases h32 : c = 32
    · exact .inr (.inl ⟨hw, h32⟩)
    · by_cases h9 : c = 9
      · exact .inr (.inr ⟨hw, h9⟩)
      · exact .inl (.inr ((blank_eq_false c).mpr ⟨h32, h9⟩))
  · exact .inl (.inl hw)

/-- the code tests the width after each blank, the specification before: with `w < col` that is the same -/
theorem trimLeadWS_eq (col : Nat) (l : Bytes) (w : Nat) (hw : w < col) :
    trimLeadWS col w l = stripColumns col w l := by
  induction l generalizing w with
  | nil => rfl
  | cons c r ih =>
    rcases blank_cases col w c with h | ⟨_, rfl⟩ | ⟨_, rfl⟩
    · have hb := (blank_eq_false c).mp (h.resolve_left (Nat.not_le.mpr hw))
      rw [stripColumns_stop col w c r h, trimLeadWS, if_neg hb.1, if_neg hb.2]
    · rw [stripColumns_sp col w r hw, trimLeadWS, if_pos rfl]
      by_cases h : w + 1 ≥ col
      · rw [if_pos h, stripColumns_ge col (w + 1) r h, Nat.sub_eq_zero_of_le hw]; rfl
      · rw [if_neg h]; exact ih (w + 1) (Nat.not_le.mp h)
    · rw [stripColumns_tab col w r hw, trimLeadWS, if_neg (by decide), if_pos rfl]
      by_cases h : w + 8 > col
      · rw [if_pos h, if_pos (Nat.le_of_lt h)]
      · rw [if_neg h]
        by_cases h' : w + 8 ≥ col
        · rw [if_pos h', stripColumns_ge col (w + 8) r h', Nat.sub_eq_zero_of_le (Nat.not_lt.mp h)]; rfl
        · rw [if_neg h']; exact ih (w + 8) (Nat.not_le.mp h')

theorem stripColumns_append (col : Nat) (b : Bytes) (x : Nat) (t : Bytes) (hx : blank x = false) (w : Nat) :
    stripColumns col w (b ++ x :: t) = stripColumns col w b ++ x :: t := by
  induction b generalizing w with
  | nil => exact stripColumns_stop col w x t (.inr hx)
  | cons c r ih =>
    rw [List.cons_append]
    rcases blank_cases col w c with h | ⟨hw, rfl⟩ | ⟨hw, rfl⟩
    · rw [stripColumns_stop col w c _ h, stripColumns_stop col w c _ h, List.cons_append]
    · rw [stripColumns_sp col w _ hw, stripColumns_sp col w _ hw, ih]
    · rw [stripColumns_tab col w _ hw, stripColumns_tab col w _ hw, ih]
      split
      · rw [List.append_assoc]
      · rfl

theorem getLast?_stripColumns (col : Nat) (l : Bytes) (w x : Nat) (h : (stripColumns col w l).getLast? = some x) :
    x = 32 ∨ l.getLast? = some x := by
  induction l generalizing w with
  | nil => cases h
  | cons c r ih =>
    have up : (x = 32 ∨ r.getLast? = some x) → (x = 32 ∨ (c :: r).getLast? = some x) :=
      Or.imp_right fun hr => by rw [List.getLast?_cons, hr]; rfl
    rcases blank_cases col w c with hc | ⟨hw, rfl⟩ | ⟨hw, rfl⟩
    · rw [stripColumns_stop col w c _ hc] at h; exact .inr h
    · rw [stripColumns_sp col w _ hw] at h; exact up (ih _ h)
    · rw [stripColumns_tab col w _ hw] at h
      split at h
      · rw [List.getLast?_append, Option.or_eq_some_iff] at h
        rcases h with hr | ⟨_, hk⟩
        · exact up (.inr hr)
        · exact .inl (List.eq_of_mem_replicate (List.mem_of_getLast? hk))
      · exact up (ih _ h)

/-- a line that is followed by a line feed: its text and the line break (CRLF if the line ends with CR) -/
def crSplit (l : Bytes) : Bytes × Bytes :=
  match l.reverse with
  | 13 :: b => (b.reverse, [13, 10])
  | _ => (l, [10])

theorem crSplit_cr (b : Bytes) : crSplit (b ++ [13]) = (b, [13, 10]) := by
  simp [crSplit]

theorem crSplit_nocr (l : Bytes) (h : l.getLast? ≠ some 13) : crSplit l = (l, [10]) := by
  unfold crSplit
  split
  · rename_i b hb
    exact absurd (by rw [← List.head?_reverse, hb]; rfl) h
  · rfl

/-- the indentation of a continuation line removed; the first line is left as it is -/
def dedent (col i : Nat) (l : Bytes) : Bytes := if i > 0 then stripColumns col 0 l else l

theorem dedent_zero (col : Nat) (l : Bytes) : dedent col 0 l = l := rfl

theorem dedent_succ (col i : Nat) (l : Bytes) : dedent col (i + 1) l = stripColumns col 0 l :=
  if_pos (Nat.succ_pos i)

theorem crSplit_dedent (col i : Nat) (l : Bytes) :
    crSplit (dedent col i l) = (dedent col i (crSplit l).1, (crSplit l).2) := by
  cases i with
  | zero => rfl
  | succ i =>
    rw [dedent_succ, dedent_succ]
    by_cases h : l.getLast? = some 13
    · obtain ⟨b, rfl⟩ := List.getLast?_eq_some_iff.mp h
      rw [stripColumns_append col b 13 [] rfl, crSplit_cr, crSplit_cr]
    · rw [crSplit_nocr l h,
        crSplit_nocr _ fun h' => h ((getLast?_stripColumns col l 0 13 h').resolve_left (by decide))]

theorem trimRight_eq (b : Bytes) : trimRightBlanks b = stripTrailing b := rfl
theorem stripTrailing_nil : stripTrailing [] = [] := rfl

/-- line `i` of `n`, as the specification reads it -/
def sLine (col n i : Nat) (l : Bytes) : Bytes :=
  if i + 1 = n then dedent col i l else stripTrailing (dedent col i (crSplit l).1) ++ (crSplit l).2

/-- the double-quoted text with its layout removed, escapes not yet substituted -/
def layout (col : Nat) (s : Bytes) : Bytes :=
  ((splitLF s).zipIdx.map fun p => sLine col (splitLF s).length p.2 p.1).flatten

theorem crSplit_snd (l : Bytes) : (crSplit l).2 = [13, 10] ∨ (crSplit l).2 = [10] := by
  unfold crSplit
  split
  · exact .inl rfl
  · exact .inr rfl

theorem rawLines_eq (s : Bytes) :
    rawLines s = (splitLF s).zipIdx.map fun p => if p.2 + 1 = (splitLF s).length then (p.1, []) else crSplit p.1 :=
  rfl

theorem decodeDQ_eq (col : Nat) (raw : Bytes) : decodeDQ col raw = unescape (layout col raw) := by
  unfold decodeDQ layout
  simp only []
  rw [rawLines_eq, zipIdx_map_idx, List.map_map]
  congr 2
  apply List.map_congr_left
  intro p _
  simp only [Function.comp, sLine, dedent]
  by_cases h : p.2 + 1 = (splitLF raw).length
  · simp [h]
  · have hb : (crSplit p.1).2.isEmpty = false := by rcases crSplit_snd p.1 with hb | hb <;> rw [hb] <;> rfl
    simp [h, hb]

theorem layout_one_line (col : Nat) (s : Bytes) (h : 10 ∉ s) : layout col s = s := by
  simp [layout, splitLF_one_line s h, sLine, dedent_zero]

theorem decodeDQ_one_line (col : Nat) (raw : Bytes) (h : 10 ∉ raw) : decodeDQ col raw = unescape raw := by
  rw [decodeDQ_eq, layout_one_line col raw h]

/-- line `i` of `n`, as `trimWhitespace` treats it -/
def mLine (col n i : Nat) (st : Bytes) : Bytes :=
  let str := if i > 0 then trimLeadWS col 0 st else st
  if str.isEmpty then (if i + 1 ≠ n then [10] else [])
  else if i + 1 ≠ n then
    let (body, cr) := match str.reverse with
      | 13 :: b => (b.reverse, true)
      | _ => (str, false)
    trimRightBlanks body ++ (if cr then [13, 10] else [10])
  else str

/-- the empty-line case and the CR flag of the code are what `crSplit` and `stripTrailing` do anyway -/
theorem mLine_eq (col n i : Nat) (st : Bytes) :
    mLine col n i st =
      if i + 1 = n then (if i > 0 then trimLeadWS col 0 st else st)
      else stripTrailing (crSplit (if i > 0 then trimLeadWS col 0 st else st)).1 ++
        (crSplit (if i > 0 then trimLeadWS col 0 st else st)).2 := by
  unfold mLine
  generalize (if i > 0 then trimLeadWS col 0 st else st) = str
  by_cases hlast : i + 1 = n
  · simp only [hlast, ne_eq, not_true_eq_false, ↓reduceIte]
    cases str <;> rfl
  · simp only [hlast, ne_eq, not_false_eq_true, ↓reduceIte]
    cases str with
    | nil => rfl
    | cons a t =>
      simp only [List.isEmpty_cons, Bool.false_eq_true, ↓reduceIte, crSplit, trimRight_eq]
      split <;> rfl

/-- **per line the code and the specification agree**: whether the columns are stripped before the CR is set
    aside (code) or after (specification) makes no difference -/
theorem mLine_eq_sLine (col n i : Nat) (hc : col ≥ 1) (st : Bytes) : mLine col n i st = sLine col n i st := by
  have hstr : (if i > 0 then trimLeadWS col 0 st else st) = dedent col i st := by
    cases i with
    | zero => rfl
    | succ i => rw [if_pos (Nat.succ_pos i), dedent_succ]; exact trimLeadWS_eq col st 0 hc
  rw [mLine_eq, hstr, crSplit_dedent, sLine]

theorem trimWhitespace_go_eq (col n : Nat) (lines : List Bytes) (i : Nat) :
    trimWhitespace.go col n i lines = ((lines.zipIdx i).map fun p => mLine col n p.2 p.1).flatten := by
  induction lines generalizing i with
  | nil => rfl
  | cons st more ih =>
    rw [List.zipIdx_cons, List.map_cons, List.flatten_cons, ← ih (i + 1)]
    rfl

/-- **the line loop of `trimWhitespace` is the specification's layout**, for every text; what differs is that
    the code has substituted the escapes before -/
theorem trimWhitespace_eq_layout (col : Nat) (hc : col ≥ 1) (s : Bytes) :
    trimWhitespace col s = layout col (escapeSubst s) := by
  unfold trimWhitespace
  simp only []
  split
  · rename_i h
    rw [layout_one_line col _ (by simpa using h)]
  · rw [trimWhitespace_go_eq]
    exact congrArg List.flatten (List.map_congr_left fun p _ => mLine_eq_sLine col _ p.2 hc p.1)

/-- the code's decoder (substitute, then lay out) yields what the specification reads off the source (lay out,
    then substitute) for every text without the pair `\r` on which the two orders agree -/
theorem trimWhitespace_eq_decodeDQ_of_comm (col : Nat) (hc : col ≥ 1) (raw : Bytes) (hr : hasEscape [114] raw = false)
    (hcomm : layout col (unescape raw) = unescape (layout col raw)) : trimWhitespace col raw = decodeDQ col raw := by
  rw [trimWhitespace_eq_layout col hc, escapeSubst_eq_unescape raw hr, hcomm, decodeDQ_eq]

end YV.YS
