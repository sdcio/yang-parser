/-
  Proofs.YUses — facts about the expansion of uses / refine / augment: a bare uses is its grouping written in
  place, and every node an expansion produces, at every depth, belongs to the module it is expanded in —
  through refines (a change at the end of a path) and augments (children added at the end of a path).
-/
import YV.Proofs.YCompile
namespace YV.C
open YV YV.Y YV.SC

theorem addIff_nil (a : A) : addIff [] a = a := by
  unfold addIff
  have : ({ a.meta with iff := a.meta.iff ++ [] } : Meta) = a.meta := by simp
  rw [this, setMeta_meta]

theorem map_addIff_nil : ∀ l : List A, l.map (addIff []) = l
  | [] => rfl
  | x :: r => by simp [addIff_nil, map_addIff_nil r]

theorem addIff_iff (fs : List Tok) (a : A) : (addIff fs a).meta.iff = a.meta.iff ++ fs := by
  rw [addIff, meta_setMeta]

theorem addIff_name (fs : List Tok) (a : A) : (addIff fs a).name = a.name := by
  cases a <;> rfl

theorem uses_is_inline (env : GEnv) (ns : Tok) (fuel : Nat) (g : Tok) (body r : List G)
    (hg : env.lookup g = some body) :
    expandKids env ns (fuel + 2) (.uses g [] [] [] :: r) =
      (do let a ← expandKids env ns fuel body
          let b ← expandKids env ns (fuel + 1) r
          pure (a ++ b)) := by
  simp only [expandKids, expandOne, hg]
  cases hb : expandKids env ns fuel body with
  | error e => simp
  | ok kids => simp [map_addIff_nil]

mutual
/-- the node and everything below it belong to module `ns` -/
def deepNs (ns : Tok) : A → Bool
  | .container _ m _ ks => decide (m.ns = ns) && deepAll ns ks
  | .list _ m _ _ _ ks => decide (m.ns = ns) && deepAll ns ks
  | .leaf _ m _ _ => decide (m.ns = ns)
  | .leafList _ m _ _ => decide (m.ns = ns)
  | .choice _ m _ _ cs => decide (m.ns = ns) && deepAll ns cs
  | .case _ m ks => decide (m.ns = ns) && deepAll ns ks
def deepAll (ns : Tok) : List A → Bool
  | [] => true
  | a :: r => deepNs ns a && deepAll ns r
end

def AllNs (ns : Tok) (l : List A) : Prop := ∀ a ∈ l, a.meta.ns = ns

theorem deepAll_cons (ns : Tok) (a : A) (r : List A) :
    deepAll ns (a :: r) = true ↔ deepNs ns a = true ∧ deepAll ns r = true := by
  rw [deepAll, Bool.and_eq_true]

theorem deepAll_iff (ns : Tok) : ∀ l : List A, deepAll ns l = true ↔ ∀ a ∈ l, deepNs ns a = true
  | [] => by simp [deepAll]
  | a :: r => by simp [deepAll_cons, deepAll_iff ns r]

theorem deepAll_append (ns : Tok) (l1 l2 : List A) :
    deepAll ns (l1 ++ l2) = true ↔ deepAll ns l1 = true ∧ deepAll ns l2 = true := by
  simp only [deepAll_iff, List.forall_mem_append]

theorem deepAll_map (ns : Tok) (f : A → A) (hf : ∀ a, deepNs ns a = true → deepNs ns (f a) = true) (l : List A)
    (h : deepAll ns l = true) : deepAll ns (l.map f) = true := by
  rw [deepAll_iff] at h ⊢
  exact List.forall_mem_map.2 fun b hb => hf b (h b hb)

theorem deep_split (ns : Tok) (a : A) : deepNs ns a = true ↔ a.meta.ns = ns ∧ deepAll ns a.kids = true := by
  cases a <;> simp [deepNs, A.meta, A.kids, deepAll]

theorem deepAll_allNs {ns : Tok} {l : List A} (h : deepAll ns l = true) : AllNs ns l :=
  fun a ha => ((deep_split ns a).1 ((deepAll_iff ns l).1 h a ha)).1

theorem deep_setKids (ns : Tok) (a : A) (ks : List A) (ha : deepNs ns a = true) (hk : deepAll ns ks = true) :
    deepNs ns (a.setKids ks) = true := by
  cases a with
  | leaf | leafList => exact ha
  | _ => simp only [deepNs, A.setKids, Bool.and_eq_true] at ha ⊢; exact ⟨ha.1, hk⟩

theorem deep_setMeta (ns : Tok) (a : A) (m : Meta) (hm : m.ns = a.meta.ns) (ha : deepNs ns a = true) :
    deepNs ns (a.setMeta m) = true := by
  rw [deep_split] at ha ⊢
  rw [setMeta_kids, meta_setMeta, hm]
  exact ha

theorem deep_addIff (ns : Tok) (fs : List Tok) (a : A) (ha : deepNs ns a = true) : deepNs ns (addIff fs a) = true :=
  deep_setMeta ns a _ rfl ha

theorem deep_addSt (ns : Tok) (st : Nat) (a : A) (ha : deepNs ns a = true) : deepNs ns (addSt st a) = true := by
  unfold addSt
  split
  · exact ha
  · exact deep_setMeta ns a _ rfl ha

theorem deep_setRefine (ns : Tok) (a : A) (p : RProp) (v : Bytes) (ha : deepNs ns a = true) :
    deepNs ns (setRefine a p v) = true := by
  obtain ⟨c, hc⟩ := setRefine_meta a p v
  rw [deep_split] at ha ⊢
  rw [setRefine_kids, hc]
  exact ha

theorem atPath_cons (change : A → Except String A) (p : Tok) (rest : List Tok) (a : A) (r : List A) :
    atPath change (p :: rest) (a :: r) =
      if a.name = p then
        (if rest.isEmpty then change a else (atPath change rest a.kids).map a.setKids).map (· :: r)
      else (atPath change (p :: rest) r).map (a :: ·) := by
  rw [atPath]

theorem atPath_deep (ns : Tok) (change : A → Except String A)
    (hch : ∀ a a', change a = .ok a' → deepNs ns a = true → deepNs ns a' = true) (path : List Tok) :
    ∀ nodes nodes', atPath change path nodes = .ok nodes' → deepAll ns nodes = true → deepAll ns nodes' = true := by
  induction path with
  | nil => intro nodes nodes' h; cases nodes <;> simp [atPath] at h
  | cons p rest ihp =>
    intro nodes
    induction nodes with
    | nil => intro nodes' h; simp [atPath] at h
    | cons a r ihr =>
      intro nodes' h hp
      rw [deepAll_cons] at hp
      rw [atPath_cons] at h
      split at h
      · obtain ⟨a', h1, rfl⟩ := map_eq_ok.1 h
        refine (deepAll_cons ..).2 ⟨?_, hp.2⟩
        split at h1
        · exact hch a a' h1 hp.1
        · obtain ⟨ks', h2, rfl⟩ := map_eq_ok.1 h1
          exact deep_setKids ns a ks' hp.1 (ihp _ _ h2 ((deep_split ns a).1 hp.1).2)
      · obtain ⟨r', h1, rfl⟩ := map_eq_ok.1 h
        exact (deepAll_cons ..).2 ⟨hp.1, ihr r' h1 hp.2⟩

theorem applyRefine_deep (ns : Tok) (b : List A) (rf : Refine) (b' : List A)
    (h : applyRefine b rf = .ok b') (hb : deepAll ns b = true) : deepAll ns b' = true :=
  atPath_deep ns _ (fun a a' hc ha => by cases hc; exact deep_setRefine ns a rf.prop rf.val ha) rf.path b b' h hb

theorem addKidsAt_deep (ns : Tok) (b : List A) (path : List Tok) (ks b' : List A)
    (h : addKidsAt b path ks = .ok b') (hb : deepAll ns b = true) (hk : deepAll ns ks = true) :
    deepAll ns b' = true :=
  atPath_deep ns _ (fun a a' hc ha => by
    split at hc
    · cases hc
      exact deep_setKids ns a _ ha ((deepAll_append ns _ _).2 ⟨((deep_split ns a).1 ha).2, hk⟩)
    · cases hc) path b b' h hb

theorem applyUsesAug_deep (ns : Tok) (expand : List G → Except String (List A))
    (hex : ∀ gs as, expand gs = .ok as → deepAll ns as = true) (b : List A) (ag : G) (b' : List A)
    (h : applyUsesAug expand b ag = .ok b') (hb : deepAll ns b = true) : deepAll ns b' = true := by
  unfold applyUsesAug at h
  split at h
  · obtain ⟨aks', hk, h⟩ := bind_eq_ok.1 h
    exact addKidsAt_deep ns b _ _ b' h hb (deepAll_map ns _ (deep_addIff ns _) _ (hex _ aks' hk))
  · obtain ⟨aks', hk, h⟩ := bind_eq_ok.1 h
    exact addKidsAt_deep ns b _ _ b' h hb
      (deepAll_map ns _ (deep_addSt ns _) _ (deepAll_map ns _ (deep_addIff ns _) _ (hex _ aks' hk)))
  · cases h; exact hb

/-- every node of the expansion, at every depth, belongs to the module it is expanded in — also when the grouping
    was defined in another module -/
theorem expand_deep (env : GEnv) (ns : Tok) (fuel : Nat) :
    (∀ gs as, expandKids env ns fuel gs = .ok as → deepAll ns as = true) ∧
    (∀ g as, expandOne env ns fuel g = .ok as → deepAll ns as = true) := by
  induction fuel with
  | zero => exact ⟨fun _ _ h => by simp [expandKids] at h, fun _ _ h => by simp [expandOne] at h⟩
  | succ fuel ih =>
    refine ⟨fun gs as h => ?_, fun g as h => ?_⟩
    · cases gs with
      | nil => cases h; rfl
      | cons g r =>
        simp only [expandKids, bind_eq_ok, epure, Except.ok.injEq] at h
        obtain ⟨here, h1, rest, h2, rfl⟩ := h
        exact (deepAll_append ns _ _).2 ⟨ih.2 g here h1, ih.1 r rest h2⟩
    · cases g with
      | leaf | leafList => cases h; simp [deepAll, deepNs]
      | aug => cases h; rfl
      | stat st g =>
        simp only [expandOne, bind_eq_ok, epure, Except.ok.injEq] at h
        obtain ⟨r, hr, rfl⟩ := h
        exact deepAll_map ns _ (deep_addSt ns st) _ (ih.2 g r hr)
      | uses gn iff refines augs =>
        simp only [expandOne] at h
        split at h
        · cases h
        · simp only [bind_eq_ok] at h
          obtain ⟨kids, hb, k2, hr, h⟩ := h
          have h0 := deepAll_map ns _ (deep_addIff ns iff) _ (ih.1 _ kids hb)
          have h1 := foldlM_pres (deepAll ns · = true) applyRefine (applyRefine_deep ns) refines _ _ hr h0
          exact foldlM_pres (deepAll ns · = true) _ (applyUsesAug_deep ns _ ih.1) augs _ _ h h1
      | _ =>
        -- a container, list, choice or case: the node, with the module written on it, over its expanded children
        simp only [expandOne, bind_eq_ok, epure, Except.ok.injEq] at h
        obtain ⟨ks', hk, rfl⟩ := h
        simp [deepAll, deepNs, ih.1 _ ks' hk]

theorem expandKids_deep (env : GEnv) (ns : Tok) : ∀ (fuel : Nat) (gs : List G) (as : List A),
    expandKids env ns fuel gs = .ok as → deepAll ns as = true :=
  fun fuel => (expand_deep env ns fuel).1

theorem expandOne_deep (env : GEnv) (ns : Tok) : ∀ (fuel : Nat) (g : G) (as : List A),
    expandOne env ns fuel g = .ok as → deepAll ns as = true :=
  fun fuel => (expand_deep env ns fuel).2

theorem expandKids_ns (env : GEnv) (ns : Tok) : ∀ (fuel : Nat) (gs : List G) (as : List A),
    expandKids env ns fuel gs = .ok as → AllNs ns as :=
  fun fuel gs as h => deepAll_allNs (expandKids_deep env ns fuel gs as h)

theorem expandOne_ns (env : GEnv) (ns : Tok) : ∀ (fuel : Nat) (g : G) (as : List A),
    expandOne env ns fuel g = .ok as → AllNs ns as :=
  fun fuel g as h => deepAll_allNs (expandOne_deep env ns fuel g as h)

end YV.C
