/-
  Proofs.YDeco — the default decoration of the model (schema/default_decorator.go: `yangDataChildren`,
  `IsActiveDefault` / `isActiveDefaultCase` with their look-ups by name, `createDefault`) adds exactly the
  defaults the specification designates (Spec.YDataS.defaultsS: one recursion over the schema where choices and
  cases stand), on every well-formed schema; hence decorating twice equals decorating once (Proofs.YIdem).

  The plan: `addedDefaults` is a `flatMap` over the level of one decision per node, `gbody`, taken with the activity
  test `actTop` (`addedDefaults_eq`); its `HasDefault()` guard decides nothing (`gbody_created`).  On the names of a
  level `actTop` is `isActiveDefault` walking the parent's own children (`actTop_eq`).  The level statement
  (`LevelSpec`, proved by `level_spec`) follows that walk through choices and cases: `flatMap gbody` over a level is
  `defaultsS` for any test that agrees with the walk there.  What a default container is filled with,
  `createDefaults`, is the same `flatMap` with nothing configured (`created_flat`), which ties the level below in.
-/
import YV.Proofs.YIdem
namespace YV.DS
open YV YV.Y YV.SC YV.D

variable {τ : Type}

/-- the look-ups by name of the walks, as tests for membership -/
theorem lookup_ite {α : Type} (l : List (SN τ)) (n : Tok) (a b : α) :
    (if (lookup n l).isSome then a else b) = if n ∈ l.map (·.name) then a else b := by
  simp only [lookup_isSome, decide_eq_true_eq]

theorem inChoice_nil (n : Tok) : inChoice ([] : List (SN τ)) n = false := rfl
theorem inChoice_choice (a : Tok) (m : Bool) (d : Option Tok) (cases r : List (SN τ)) (n : Tok) :
    inChoice (.choice a m d cases :: r) n = (decide (n ∈ cnames cases) || inChoice r n) :=
  congrArg (· || inChoice r n) (lookup_isSome (caseKids cases) n)
theorem inChoice_cons {x : SN τ} (h : x.isChoice = false) (r : List (SN τ)) (n : Tok) : inChoice (x :: r) n = inChoice r n := by
  cases x with
  | choice => cases h
  | _ => rfl

/-- `cfg(sch)` of the code is the specification's "something of it is configured" -/
theorem hasCfg_active (seen : List Tok) (kids : List (SN τ)) : hasCfg seen (dataKids kids) = active kids seen := rfl
theorem hasCfg_activeCases (seen : List Tok) (cases : List (SN τ)) : hasCfg seen (caseKids cases) = activeCases cases seen := rfl

theorem iad_nil (seen : List Tok) (name : Tok) (dc sc : Bool) :
    isActiveDefault seen name dc sc ([] : List (SN τ)) = false := by rw [isActiveDefault.eq_def]

/-- the look-up by name succeeds exactly on the names of the choice's level -/
theorem iad_choice (seen : List Tok) (name : Tok) (dc sc : Bool) (a : Tok) (b : Bool) (d : Option Tok) (cases r : List (SN τ)) :
    isActiveDefault seen name dc sc (.choice a b d cases :: r) =
      if name ∈ cnames cases then
        if activeCases cases seen then isActiveDefaultCase seen name none cases
        else match d with
          | some dc' => isActiveDefaultCase seen name (some dc') cases
          | none => isActiveDefault seen name dc sc r
      else isActiveDefault seen name dc sc r := by
  rw [isActiveDefault.eq_def]; exact lookup_ite ..

theorem iad_cons {x : SN τ} (h : x.isChoice = false) (seen : List Tok) (name : Tok) (dc sc : Bool) (r : List (SN τ)) :
    isActiveDefault seen name dc sc (x :: r) =
      if x.name = name then (dc || sc || isActiveDefault seen name dc sc r) else isActiveDefault seen name dc sc r := by
  cases x with
  | choice => cases h
  | _ => exact isActiveDefault.eq_def ..

theorem iadc_nil (seen : List Tok) (name : Tok) (dflt : Option Tok) :
    isActiveDefaultCase seen name dflt ([] : List (SN τ)) = false := by rw [isActiveDefaultCase.eq_def]
theorem iadc_case (seen : List Tok) (name : Tok) (dflt : Option Tok) (cn : Tok) (kids r : List (SN τ)) :
    isActiveDefaultCase seen name dflt (.case cn kids :: r) =
      if name ∈ names kids then
        (match dflt with
         | none => if !active kids seen then false else isActiveDefault seen name false (active kids seen) kids
         | some dc => if dc ≠ cn then false else isActiveDefault seen name true (active kids seen) kids)
      else isActiveDefaultCase seen name dflt r := by
  rw [isActiveDefaultCase.eq_def]; exact lookup_ite ..

theorem iadc_cons {x : SN τ} (h : x.isCase = false) (seen : List Tok) (name : Tok) (dflt : Option Tok) (r : List (SN τ)) :
    isActiveDefaultCase seen name dflt (x :: r) =
      if dflt = some x.name && x.name = name then true else isActiveDefaultCase seen name dflt r := by
  cases x with
  | case => cases h
  | _ => exact isActiveDefaultCase.eq_def ..

theorem iad_notin (seen : List Tok) (name : Tok) (dc sc : Bool) : ∀ (l : List (SN τ)), name ∉ names l →
    isActiveDefault seen name dc sc l = false := by
  apply body_ind
  · exact fun _ => iad_nil seen name dc sc
  · intro x r hx ih h
    rw [names_cons hx, List.mem_cons, not_or] at h
    rw [iad_cons hx, if_neg (fun e => h.1 e.symm)]; exact ih h.2
  · intro a m d cases r ih h
    rw [names_choice, List.mem_append, not_or] at h
    rw [iad_choice, if_neg h.1]; exact ih h.2

theorem inChoice_false_of_notin (n : Tok) : ∀ (l : List (SN τ)), n ∉ names l → inChoice l n = false := by
  apply body_ind
  · exact fun _ => inChoice_nil n
  · intro x r hx ih h
    rw [names_cons hx, List.mem_cons, not_or] at h
    rw [inChoice_cons hx]; exact ih h.2
  · intro a m d cases r ih h
    rw [names_choice, List.mem_append, not_or] at h
    rw [inChoice_choice, decide_eq_false h.1]; exact ih h.2

/-- with both flags false a node found directly decides nothing, so the walk over the choices alone (what the code
    passes) is the walk over all children -/
theorem iad_filter (seen : List Tok) (n : Tok) : ∀ (l : List (SN τ)),
    isActiveDefault seen n false false (l.filter (·.isChoice)) = isActiveDefault seen n false false l := by
  apply body_ind
  · rfl
  · intro x r hx ih
    rw [List.filter_cons_of_neg (Bool.eq_false_iff.mp hx), iad_cons hx, ih]
    exact (ite_self _).symm
  · intro a m d cases r ih
    rw [List.filter_cons_of_pos rfl, iad_choice, iad_choice, ih]

/- `createDefault*`, `hasDefault` and `anyDefault*` are compiled by structural recursion, so their equations hold by
   `rfl`; the walks above and the decoration below by well-founded recursion: those are unfolded with `f.eq_def` -/
theorem createDefault_leaf (n : Tok) (t : τ) (d : Option Bytes) (m : Bool) :
    createDefault (.leaf n t d m : SN τ) =
      (match d, m with
       | some dv, false => some (.mk n [] [dv])
       | _, _ => none) := by
  cases d <;> cases m <;> rfl

theorem createDefault_container (n : Tok) (pr : Bool) (kids : List (SN τ)) :
    createDefault (.container n pr kids) =
      if pr then none
      else if (createDefaults kids kids).isEmpty then none else some (.mk n (createDefaults kids kids) []) := by
  cases pr <;> rfl

theorem cds_nil (ctx : List (SN τ)) : createDefaults ctx [] = [] := rfl
theorem cds_choice (ctx : List (SN τ)) (a : Tok) (b : Bool) (d : Option Tok) (cases r : List (SN τ)) :
    createDefaults ctx (.choice a b d cases :: r) = createDefaultsCases ctx cases ++ createDefaults ctx r := rfl
theorem cds_case (ctx : List (SN τ)) (a : Tok) (k r : List (SN τ)) :
    createDefaults ctx (.case a k :: r) = createDefaults ctx r := rfl
theorem cds_cons {x : SN τ} (h : x.isChoice = false) (ctx r : List (SN τ)) :
    createDefaults ctx (x :: r) = (createDefault x).toList ++ createDefaults ctx r := by
  cases x with
  | choice => cases h
  | _ => rfl

theorem cdc_nil (ctx : List (SN τ)) : createDefaultsCases ctx [] = [] := rfl
theorem cdc_case (ctx : List (SN τ)) (a : Tok) (kids r : List (SN τ)) :
    createDefaultsCases ctx (.case a kids :: r) = createDefaultsIn ctx kids ++ createDefaultsCases ctx r := rfl
theorem cdc_cons {x : SN τ} (h : x.isCase = false) (ctx r : List (SN τ)) :
    createDefaultsCases ctx (x :: r) = createDefaultsCases ctx r := by
  cases x with
  | case => cases h
  | _ => rfl

theorem cdi_nil (ctx : List (SN τ)) : createDefaultsIn ctx [] = [] := rfl
theorem cdi_choice (ctx : List (SN τ)) (a : Tok) (b : Bool) (d : Option Tok) (cases r : List (SN τ)) :
    createDefaultsIn ctx (.choice a b d cases :: r) = createDefaultsCases ctx cases ++ createDefaultsIn ctx r := rfl
theorem cdi_cons {x : SN τ} (h : x.isChoice = false) (ctx r : List (SN τ)) :
    createDefaultsIn ctx (x :: r) =
      (if isActiveDefault [] x.name false false (ctx.filter (·.isChoice)) then (createDefault x).toList else []) ++
        createDefaultsIn ctx r := by
  cases x with
  | choice => cases h
  | leaf => rfl
  | container => rfl
  | _ => exact (congrArg (· ++ createDefaultsIn ctx r) (ite_self [])).symm

theorem anyDefault_nil : anyDefault ([] : List (SN τ)) = false := rfl
theorem anyDefault_choice (a : Tok) (b : Bool) (d : Option Tok) (cases r : List (SN τ)) :
    anyDefault (.choice a b d cases :: r) = (anyDefaultCases cases || anyDefault r) := rfl
theorem anyDefault_cons {x : SN τ} (h : x.isChoice = false) (r : List (SN τ)) :
    anyDefault (x :: r) = (hasDefault x || anyDefault r) := by
  cases x with
  | choice => cases h
  | _ => rfl
theorem anyDefaultCases_nil : anyDefaultCases ([] : List (SN τ)) = false := rfl
theorem anyDefaultCases_case (a : Tok) (kids r : List (SN τ)) :
    anyDefaultCases (.case a kids :: r) = (anyDefault kids || anyDefaultCases r) := rfl
theorem anyDefaultCases_cons {x : SN τ} (h : x.isCase = false) (r : List (SN τ)) :
    anyDefaultCases (x :: r) = (hasDefault x || anyDefaultCases r) := by
  cases x with
  | case => cases h
  | _ => rfl
theorem hasDefault_leaf (n : Tok) (t : τ) (d : Option Bytes) (m : Bool) :
    hasDefault (.leaf n t d m : SN τ) = (!m && d.isSome) := rfl
theorem hasDefault_container (n : Tok) (p : Bool) (k : List (SN τ)) :
    hasDefault (.container n p k) = (!p && anyDefault k) := rfl

/-- `HasDefault()` false: nothing is created, once the same is known one level down -/
theorem createDefault_none {x : SN τ} (hk : anyDefault x.kids = false → createDefaults x.kids x.kids = [])
    (h : hasDefault x = false) : createDefault x = none := by
  cases x with
  | leaf n t d m => cases d <;> cases m <;> first | rfl | cases h
  | container n p k =>
    cases p
    · exact if_pos (congrArg List.isEmpty (hk h))
    · rfl
  | _ => rfl

theorem created_noDefault : ∀ l : List (SN τ),
    (anyDefault l = false → ∀ ctx, createDefaults ctx l = [] ∧ createDefaultsIn ctx l = []) ∧
    (anyDefaultCases l = false → ∀ ctx, createDefaultsCases ctx l = []) := by
  apply level_ind
  · exact fun _ ctx => ⟨cds_nil ctx, cdi_nil ctx⟩
  · intro x r hx ihk ihr h ctx
    rw [anyDefault_cons hx, Bool.or_eq_false_iff] at h
    rw [cds_cons hx, cdi_cons hx, (ihr h.2 ctx).1, (ihr h.2 ctx).2, createDefault_none (fun hk => (ihk hk _).1) h.1]
    exact ⟨rfl, by rw [Option.toList_none, ite_self]; rfl⟩
  · intro a m d cases r ihc ihr h ctx
    rw [anyDefault_choice, Bool.or_eq_false_iff] at h
    rw [cds_choice, cdi_choice, ihc h.1, (ihr h.2 ctx).1, (ihr h.2 ctx).2]
    exact ⟨rfl, rfl⟩
  · exact fun _ => cdc_nil
  · intro a kids r ihk ihr h ctx
    rw [anyDefaultCases_case, Bool.or_eq_false_iff] at h
    rw [cdc_case, (ihk h.1 ctx).2, ihr h.2]; rfl
  · intro x r hx ihr h ctx
    rw [anyDefaultCases_cons hx, Bool.or_eq_false_iff] at h
    rw [cdc_cons hx, ihr h.2]

theorem cdc_noDefault (ctx : List (SN τ)) : ∀ (cases : List (SN τ)), wfC cases → anyDefaultCases cases = false →
    createDefaultsCases ctx cases = [] :=
  fun cases _ h => (created_noDefault cases).2 h ctx
theorem cdi_noDefault (ctx : List (SN τ)) : ∀ (nodes : List (SN τ)), wfL nodes → anyDefault nodes = false →
    createDefaultsIn ctx nodes = [] :=
  fun nodes _ h => ((created_noDefault nodes).1 h ctx).2

theorem inst_noDefault {x : SN τ} (hk : anyDefault x.kids = false → defaultsS [] x.kids = []) (h : hasDefault x = false) :
    inst x = [] := by
  cases x with
  | leaf n t d m => cases d <;> cases m <;> first | rfl | cases h
  | container n p k =>
    cases p
    · exact if_pos (congrArg List.isEmpty (hk h))
    · rfl
  | _ => rfl

theorem noDefault : ∀ l : List (SN τ), (anyDefault l = false → ∀ cfg, defaultsS cfg l = []) ∧
    (anyDefaultCases l = false → (∀ cfg, defaultsActive cfg l = []) ∧ ∀ dc, defaultsOfCase dc l = []) := by
  apply level_ind
  · exact fun _ => defaultsS_nil
  · intro x r hx ihk ihr h cfg
    rw [anyDefault_cons hx, Bool.or_eq_false_iff] at h
    rw [defaultsS_cons hx, ihr h.2, inst_noDefault (fun hk => ihk hk []) h.1, ite_self]; rfl
  · intro a m d cases r ihc ihr h cfg
    rw [anyDefault_choice, Bool.or_eq_false_iff] at h
    rw [defaultsS_choice, ihr h.2, (ihc h.1).1]
    cases d with
    | none => simp
    | some dc => simp [(ihc h.1).2 dc]
  · exact fun _ => ⟨defaultsActive_nil, defaultsOfCase_nil⟩
  · intro a kids r ihk ihr h
    rw [anyDefaultCases_case, Bool.or_eq_false_iff] at h
    constructor
    · intro cfg; rw [defaultsActive_case, ihk h.1, (ihr h.2).1, ite_self]; rfl
    · intro dc; rw [defaultsOfCase_case, ihk h.1, (ihr h.2).2, ite_self]
  · intro x r hx ihr h
    rw [anyDefaultCases_cons hx, Bool.or_eq_false_iff] at h
    exact ⟨fun cfg => by rw [defaultsActive_cons hx, (ihr h.2).1], fun dc => by rw [defaultsOfCase_cons hx, (ihr h.2).2]⟩

theorem defaultsS_noDefault (cfg : List Tok) (nodes : List (SN τ)) (h : anyDefault nodes = false) :
    defaultsS cfg nodes = [] := (noDefault nodes).1 h cfg
theorem defaultsActive_noDefault (cfg : List Tok) : ∀ (cases : List (SN τ)), wfC cases → anyDefaultCases cases = false →
    defaultsActive cfg cases = [] :=
  fun cases _ h => ((noDefault cases).2 h).1 cfg
theorem defaultsOfCase_noDefault (dc : Tok) : ∀ (cases : List (SN τ)), wfC cases → anyDefaultCases cases = false →
    defaultsOfCase dc cases = [] :=
  fun cases _ h => ((noDefault cases).2 h).2 dc

/-- two sets of configured names that agree on the names in `S` -/
def Agree (S c1 c2 : List Tok) : Prop := ∀ n ∈ S, (n ∈ c1 ↔ n ∈ c2)

theorem Agree_left {S1 S2 c1 c2 : List Tok} (h : Agree (S1 ++ S2) c1 c2) : Agree S1 c1 c2 :=
  fun n hn => h n (List.mem_append_left _ hn)
theorem Agree_right {S1 S2 c1 c2 : List Tok} (h : Agree (S1 ++ S2) c1 c2) : Agree S2 c1 c2 :=
  fun n hn => h n (List.mem_append_right _ hn)

theorem contains_congr {c1 c2 : List Tok} {n : Tok} (h : n ∈ c1 ↔ n ∈ c2) : c1.contains n = c2.contains n :=
  Bool.eq_iff_iff.mpr (List.contains_iff_mem.trans (h.trans List.contains_iff_mem.symm))

theorem any_contains_congr {c1 c2 : List Tok} (L : List (SN τ)) (h : Agree (L.map (·.name)) c1 c2) :
    (L.any fun n => c1.contains n.name) = L.any fun n => c2.contains n.name :=
  Bool.eq_iff_iff.mpr <| by
    rw [any_contains_iff, any_contains_iff]
    exact exists_congr fun n => and_congr_right fun hn => h n hn

theorem active_congr (kids : List (SN τ)) {c1 c2 : List Tok} (h : Agree (names kids) c1 c2) :
    active kids c1 = active kids c2 := any_contains_congr (dataKids kids) h
theorem activeCases_congr (cases : List (SN τ)) {c1 c2 : List Tok} (h : Agree (cnames cases) c1 c2) :
    activeCases cases c1 = activeCases cases c2 := any_contains_congr (caseKids cases) h

/-- what the specification emits depends on the configuration only through the names of the level -/
theorem defaults_congr (c1 c2 : List Tok) : ∀ l : List (SN τ), (Agree (names l) c1 c2 → defaultsS c1 l = defaultsS c2 l) ∧
    (Agree (cnames l) c1 c2 → defaultsActive c1 l = defaultsActive c2 l) := by
  apply level_ind
  · intro _; rw [defaultsS_nil, defaultsS_nil]
  · intro x r hx _ ihr h
    rw [names_cons hx] at h
    rw [defaultsS_cons hx, defaultsS_cons hx, ihr (Agree_right (S1 := [x.name]) h), contains_congr (h _ List.mem_cons_self)]
  · intro a m d cases r ihc ihr h
    rw [names_choice] at h
    rw [defaultsS_choice, defaultsS_choice, ihr (Agree_right h), activeCases_congr cases (Agree_left h), ihc (Agree_left h)]
  · intro _; rw [defaultsActive_nil, defaultsActive_nil]
  · intro a kids r ihk ihr h
    rw [cnames_case] at h
    rw [defaultsActive_case, defaultsActive_case, ihr (Agree_right h), active_congr kids (Agree_left h), ihk (Agree_left h)]
  · intro x r hx ihr h
    rw [cnames, caseKids_cons hx] at h
    rw [defaultsActive_cons hx, defaultsActive_cons hx]
    exact ihr (Agree_right (S1 := [x.name]) h)

theorem defaultsS_congr (c1 c2 : List Tok) (nodes : List (SN τ)) (h : Agree (names nodes) c1 c2) :
    defaultsS c1 nodes = defaultsS c2 nodes := (defaults_congr c1 c2 nodes).1 h
theorem defaultsActive_congr (c1 c2 : List Tok) : ∀ (cases : List (SN τ)), wfC cases → Agree (cnames cases) c1 c2 →
    defaultsActive c1 cases = defaultsActive c2 cases :=
  fun cases _ h => (defaults_congr c1 c2 cases).2 h

/-- what `yangDataChildren` does with one node of the child map, given the activity test -/
def gbody (seen : List Tok) (act : Tok → Bool) (def_ : SN τ) : List DN :=
  if !hasDefault def_ || seen.contains def_.name then []
  else if !act def_.name then [] else (createDefault def_).toList

theorem flatMap_gbody_congr (seen : List Tok) (act1 act2 : Tok → Bool) (l : List (SN τ))
    (h : ∀ x ∈ l, act1 x.name = act2 x.name) : l.flatMap (gbody seen act1) = l.flatMap (gbody seen act2) := by
  rw [List.flatMap_def, List.flatMap_def, List.map_congr_left fun x hx => by unfold gbody; rw [h x hx]]
  rfl

theorem flatMap_gbody_false (seen : List Tok) (act : Tok → Bool) (l : List (SN τ))
    (h : ∀ n ∈ l.map (·.name), act n = false) : l.flatMap (gbody seen act) = [] :=
  List.flatMap_eq_nil_iff.mpr fun x hx => by
    unfold gbody; rw [h _ (List.mem_map_of_mem hx), Bool.not_false, if_pos rfl, ite_self]

theorem iadc_some_false (seen : List Tok) (name dc : Tok) : ∀ cases : List (SN τ),
    (∀ c ∈ cases, c.name ≠ dc) → isActiveDefaultCase seen name (some dc) cases = false := by
  apply cases_ind
  · exact fun _ => iadc_nil seen name (some dc)
  · intro a kids r ihr h
    rw [iadc_case, ihr fun c hc => h c (List.mem_cons_of_mem _ hc)]
    exact ite_eq_right_iff.mpr fun _ => if_pos fun e => h (.case a kids) List.mem_cons_self e.symm
  · intro x r hx ihr h
    have hn : ¬ (some dc = some x.name) := fun e => h x List.mem_cons_self (Option.some.inj e).symm
    rw [iadc_cons hx, ihr fun c hc => h c (List.mem_cons_of_mem _ hc), decide_eq_false hn]
    rfl

/-- the activity test `yangDataChildren` applies at a parent with schema children `top` -/
def actTop (top : List (SN τ)) (seen : List Tok) (n : Tok) : Bool :=
  !inChoice top n || isActiveDefault seen n false false (top.filter (·.isChoice))

def body (top : List (SN τ)) (seen : List Tok) (def_ : SN τ) : List DN := gbody seen (actTop top seen) def_

theorem addedDefaults_eq (top : List (SN τ)) (seen : List Tok) :
    addedDefaults top seen = (dataKids top).flatMap (body top seen) := by
  unfold addedDefaults
  congr 1
  funext def_
  unfold body gbody actTop
  rw [Bool.not_or, Bool.not_not]

/-- a node without a default creates nothing, so the `HasDefault()` test of `yangDataChildren` decides nothing -/
theorem gbody_created (seen : List Tok) (act : Tok → Bool) (x : SN τ) :
    gbody seen act x = if seen.contains x.name then [] else if act x.name then (createDefault x).toList else [] := by
  unfold gbody
  cases hd : hasDefault x
  · rw [createDefault_none (fun hk => ((created_noDefault x.kids).1 hk _).1) hd, Option.toList_none]
    simp only [ite_self]
  · cases act x.name <;> rfl

/-- `createDefaults` (what a default container is filled with) takes the decisions of `yangDataChildren` with
    nothing configured -/
theorem created_flat :
    (∀ l : List (SN τ), wfL l →
      (∀ ctx, (names l).Nodup → (∀ n ∈ names l, inChoice ctx n = inChoice l n) →
        createDefaults ctx l = (dataKids l).flatMap (body ctx [])) ∧
      (∀ ctx, (∀ n ∈ names l, inChoice ctx n = true) → createDefaultsIn ctx l = (dataKids l).flatMap (body ctx []))) ∧
    (∀ l : List (SN τ), wfC l → ∀ ctx, (∀ n ∈ cnames l, inChoice ctx n = true) →
      createDefaultsCases ctx l = (caseKids l).flatMap (body ctx [])) := by
  apply wf_ind
  · exact ⟨fun ctx _ _ => by rw [cds_nil, dataKids_nil]; rfl, fun ctx _ => by rw [cdi_nil, dataKids_nil]; rfl⟩
  · intro x r hx _ _ _ ihr
    constructor
    · intro ctx hnd h
      rw [names_cons hx] at hnd
      rw [names_cons hx, List.forall_mem_cons] at h
      have hnd' := List.nodup_cons.mp hnd
      have ha : inChoice ctx x.name = false := by
        rw [h.1, inChoice_cons hx, inChoice_false_of_notin _ r hnd'.1]
      rw [cds_cons hx, dataKids_cons hx, List.flatMap_cons, body, gbody_created, actTop, ha]
      congr 1
      apply ihr.1 ctx hnd'.2
      intro n hn
      rw [h.2 n hn, inChoice_cons hx]
    · intro ctx h
      rw [names_cons hx, List.forall_mem_cons] at h
      rw [cdi_cons hx, dataKids_cons hx, List.flatMap_cons, body, gbody_created, actTop, h.1, ihr.2 ctx h.2]
      rfl
  · intro a b d cases r _ _ _ ihc ihr
    constructor
    · intro ctx hnd h
      rw [names_choice] at hnd
      rw [names_choice, List.forall_mem_append] at h
      rw [cds_choice, dataKids_choice, List.flatMap_append]
      congr 1
      · apply ihc ctx
        intro n hn
        rw [h.1 n hn, inChoice_choice, decide_eq_true hn]; rfl
      · apply ihr.1 ctx (nodup_right hnd)
        intro n hn
        rw [h.2 n hn, inChoice_choice, decide_eq_false (fun hc => nodup_disj hnd hc hn)]; rfl
    · intro ctx h
      rw [names_choice, List.forall_mem_append] at h
      rw [cdi_choice, dataKids_choice, List.flatMap_append, ihc ctx h.1, ihr.2 ctx h.2]
  · exact fun ctx _ => by rw [cdc_nil, caseKids_nil]; rfl
  · intro a kids r _ _ ihk ihr ctx h
    rw [cnames_case, List.forall_mem_append] at h
    rw [cdc_case, caseKids_case, List.flatMap_append, ihk.2 ctx h.1, ihr ctx h.2]

theorem cds_flat (ctx : List (SN τ)) : ∀ (nodes : List (SN τ)), wfL nodes → (names nodes).Nodup →
    (∀ n ∈ names nodes, inChoice ctx n = inChoice nodes n) →
    createDefaults ctx nodes = (dataKids nodes).flatMap (body ctx []) :=
  fun nodes hw => (created_flat.1 nodes hw).1 ctx
theorem cdi_flat (ctx : List (SN τ)) : ∀ (nodes : List (SN τ)), wfL nodes →
    (∀ n ∈ names nodes, inChoice ctx n = true) →
    createDefaultsIn ctx nodes = (dataKids nodes).flatMap (body ctx []) :=
  fun nodes hw => (created_flat.1 nodes hw).2 ctx

/-- a default container is filled with what `yangDataChildren` would add to an empty one -/
theorem createDefaults_eq_added (kids : List (SN τ)) (hw : wfL kids) (hnd : (names kids).Nodup) :
    createDefaults kids kids = addedDefaults kids [] := by
  rw [addedDefaults_eq]
  exact cds_flat kids kids hw hnd (fun _ _ => rfl)

theorem actTop_eq_of_nodup (seen : List Tok) : ∀ (l : List (SN τ)), (names l).Nodup → ∀ n ∈ names l,
    actTop l seen n = isActiveDefault seen n true false l := by
  simp only [actTop, iad_filter]
  apply body_ind
  · intro _ n h; simp at h
  · intro x r hx ih hnd n h
    rw [names_cons hx] at hnd h
    have hnd' := List.nodup_cons.mp hnd
    rw [inChoice_cons hx, iad_cons hx, iad_cons hx]
    by_cases e : x.name = n
    · rw [if_pos e, if_pos e, ← e, inChoice_false_of_notin _ r hnd'.1]; rfl
    · rw [if_neg e, if_neg e]
      exact ih hnd'.2 n ((List.mem_cons.mp h).resolve_left (fun e' => e e'.symm))
  · intro a b d cases r ih hnd n h
    rw [names_choice] at hnd h
    by_cases hin : n ∈ cnames cases
    · have hnr : n ∉ names r := fun hr => nodup_disj hnd hin hr
      rw [inChoice_choice, decide_eq_true hin, iad_choice, iad_choice, if_pos hin, if_pos hin,
        iad_notin seen n false false r hnr, iad_notin seen n true false r hnr]
      rfl
    · rw [inChoice_choice, decide_eq_false hin, iad_choice, iad_choice, if_neg hin, if_neg hin]
      exact ih (nodup_right hnd) n ((List.mem_append.mp h).resolve_left hin)

theorem actTop_eq (seen : List Tok) : ∀ (l : List (SN τ)), wfL l → (names l).Nodup → ∀ n ∈ names l,
    actTop l seen n = isActiveDefault seen n true false l :=
  fun l _ => actTop_eq_of_nodup seen l

/-- the level statement for one body (the children of a container / list / case / the root): whatever test `act`
    agrees on the names of the level with the walk `isActiveDefault` over the body, the model's decisions over the
    level are the specification's defaults.  The flags are those of the walk: `dc` "we are in the default case of a
    choice with nothing configured", `sc` "something of this case is configured"; a name the walk finds directly in
    the body (not below a choice of it) is active iff one of them holds, and `(dc || sc) = true` is the situation of a
    body that is reached at all: the root or an existing parent (`true`, `false`), an active case, the default case. -/
def LevelSpec (nodes : List (SN τ)) : Prop :=
  ∀ (seen : List Tok) (act : Tok → Bool) (dc sc : Bool), (dc || sc) = true →
    (∀ n ∈ names nodes, act n = isActiveDefault seen n dc sc nodes) →
    (dataKids nodes).flatMap (gbody seen act) = defaultsS seen nodes

theorem added_eq_of_lvl (kids : List (SN τ)) (hnd : (names kids).Nodup) (h : LevelSpec kids)
    (seen : List Tok) : addedDefaults kids seen = defaultsS seen kids := by
  rw [addedDefaults_eq]
  exact h seen (actTop kids seen) true false rfl (actTop_eq_of_nodup seen kids hnd)

/-- `createDefault` = the default instance, once the same is known one level down -/
theorem createDefault_eq_inst {x : SN τ} (hsub : createDefaults x.kids x.kids = defaultsS [] x.kids) :
    (createDefault x).toList = inst x := by
  cases x with
  | leaf n t d m => cases d <;> cases m <;> rfl
  | container n p k =>
    cases p
    · rw [createDefault_container, if_neg Bool.false_ne_true, show createDefaults k k = defaultsS [] k from hsub]
      exact apply_ite Option.toList ..
    · rfl
  | _ => rfl

/-- the walk is followed through the schema: at a node found directly the test is true by the flags; at a choice the
    names of its level are decided by `isActiveDefaultCase` (with `none` when something of the choice is configured:
    the cases with something configured; with the default case otherwise, whose body is then read with nothing of
    it configured); names of different parts of a level never meet because the level has no duplicates.  The part for
    the default case also needs the cases of the choice to have different names: the specification takes the first case
    named like the default, the walk accepts every such case. -/
theorem level_spec : (∀ l : List (SN τ), wfL l → (names l).Nodup → LevelSpec l) ∧
    (∀ l : List (SN τ), wfC l → (cnames l).Nodup →
      (∀ (seen : List Tok) (act : Tok → Bool), (∀ n ∈ cnames l, act n = isActiveDefaultCase seen n none l) →
        (caseKids l).flatMap (gbody seen act) = defaultsActive seen l) ∧
      ((l.map (·.name)).Nodup → ∀ (seen : List Tok) (act : Tok → Bool) (dc' : Tok), (∀ n ∈ cnames l, n ∉ seen) →
        (∀ n ∈ cnames l, act n = isActiveDefaultCase seen n (some dc') l) →
        (caseKids l).flatMap (gbody seen act) = defaultsOfCase dc' l)) := by
  apply wf_ind
  · intro _ seen act dc sc _ _; rw [dataKids_nil, defaultsS_nil]; rfl
  · intro x r hx hw hwr ihk ihr hnd seen act dc sc hb h
    obtain ⟨hwk, hndk⟩ := wfN_kids hx hw
    rw [names_cons hx] at hnd
    rw [names_cons hx, List.forall_mem_cons] at h
    have hnd' := List.nodup_cons.mp hnd
    have ha : act x.name = true := by rw [h.1, iad_cons hx, if_pos rfl, hb]; rfl
    have hsub : createDefaults x.kids x.kids = defaultsS [] x.kids :=
      (createDefaults_eq_added _ hwk hndk).trans (added_eq_of_lvl _ hndk (ihk hndk) [])
    rw [dataKids_cons hx, List.flatMap_cons, defaultsS_cons hx, gbody_created, createDefault_eq_inst hsub, ha]
    congr 1
    apply ihr hnd'.2 seen act dc sc hb
    intro n hn
    rw [h.2 n hn, iad_cons hx, if_neg (fun (e : x.name = n) => hnd'.1 (e ▸ hn))]
  · intro a b d cases r hwc hcn hwr ihc ihr hnd seen act dc sc hb h
    rw [names_choice] at hnd
    rw [names_choice, List.forall_mem_append] at h
    rw [dataKids_choice, List.flatMap_append, defaultsS_choice]
    have ihc := ihc (nodup_left hnd)
    congr 1
    · -- the walk at a name of this choice, past the look-up
      have hact := fun n (hn : n ∈ cnames cases) => (h.1 n hn).trans ((iad_choice ..).trans (if_pos hn))
      by_cases hac : activeCases cases seen = true
      · rw [if_pos hac]
        apply ihc.1 seen act
        intro n hn
        rw [hact n hn, if_pos hac]
      · rw [if_neg hac]
        cases d with
        | none =>
          refine flatMap_gbody_false seen act _ fun n (hn : n ∈ cnames cases) => ?_
          rw [hact n hn, if_neg hac]
          exact iad_notin seen n dc sc r fun hr => nodup_disj hnd hn hr
        | some dc' =>
          apply ihc.2 hcn seen act dc' (fun n hn hs => hac ((activeCases_iff cases seen).mpr ⟨n, hn, hs⟩))
          intro n hn
          rw [hact n hn, if_neg hac]
    · apply ihr (nodup_right hnd) seen act dc sc hb
      intro n hn
      rw [h.2 n hn, iad_choice, if_neg (fun hc => nodup_disj hnd hc hn)]
  · intro _
    exact ⟨fun seen _ _ => by rw [caseKids_nil, defaultsActive_nil]; rfl,
      fun _ _ _ dc' _ _ => by rw [caseKids_nil, defaultsOfCase_nil]; rfl⟩
  · intro a kids r hwk hwr ihk ihr hnd
    rw [cnames_case] at hnd
    have ihk := ihk (nodup_left hnd)
    have ihr := ihr (nodup_right hnd)
    have hout : ∀ {n}, n ∈ cnames r → n ∉ names kids := fun hn hk => nodup_disj hnd hk hn
    constructor
    · intro seen act h
      rw [cnames_case, List.forall_mem_append] at h
      rw [caseKids_case, List.flatMap_append, defaultsActive_case]
      congr 1
      · by_cases hac : active kids seen = true
        · rw [if_pos hac]
          apply ihk seen act false true rfl
          intro n hn
          rw [h.1 n hn, iadc_case, if_pos hn, hac]; rfl
        · rw [if_neg hac]
          refine flatMap_gbody_false seen act _ fun n (hn : n ∈ names kids) => ?_
          rw [h.1 n hn, iadc_case, if_pos hn, Bool.eq_false_iff.mpr hac]; rfl
      · apply ihr.1 seen act
        intro n hn
        rw [h.2 n hn, iadc_case, if_neg (hout hn)]
    · intro hcn seen act dc' hns h
      rw [cnames_case, List.forall_mem_append] at h hns
      have hcn' := List.nodup_cons.mp (show (a :: r.map (·.name)).Nodup from hcn)
      rw [caseKids_case, List.flatMap_append, defaultsOfCase_case]
      by_cases hdc : a = dc'
      · rw [if_pos hdc]
        have h2 : (caseKids r).flatMap (gbody seen act) = [] := by
          refine flatMap_gbody_false seen act _ fun n (hn : n ∈ cnames r) => ?_
          rw [h.2 n hn, iadc_case, if_neg (hout hn)]
          exact iadc_some_false seen n dc' r fun c hc e => hcn'.1 (hdc ▸ e ▸ List.mem_map_of_mem hc)
        rw [h2, List.append_nil]
        have h1 : (dataKids kids).flatMap (gbody seen act) = defaultsS seen kids := by
          apply ihk seen act true (active kids seen) rfl
          intro n hn
          rw [h.1 n hn, iadc_case, if_pos hn]; exact if_neg (fun e => e hdc.symm)
        rw [h1]
        exact defaultsS_congr seen [] kids fun n hn =>
          ⟨fun hs => (hns.1 n hn hs).elim, fun hs => nomatch hs⟩
      · rw [if_neg hdc]
        have h1 : (dataKids kids).flatMap (gbody seen act) = [] := by
          refine flatMap_gbody_false seen act _ fun n (hn : n ∈ names kids) => ?_
          rw [h.1 n hn, iadc_case, if_pos hn]; exact if_pos (fun e => hdc e.symm)
        rw [h1, List.nil_append]
        apply ihr.2 hcn'.2 seen act dc' hns.2
        intro n hn
        rw [h.2 n hn, iadc_case, if_neg (hout hn)]

theorem lvl_S : ∀ (nodes : List (SN τ)), wfL nodes → (names nodes).Nodup → LevelSpec nodes := level_spec.1
theorem lvl_A : ∀ (cases : List (SN τ)), wfC cases → (cnames cases).Nodup → ∀ (seen : List Tok) (act : Tok → Bool),
    (∀ n ∈ cnames cases, act n = isActiveDefaultCase seen n none cases) →
    (caseKids cases).flatMap (gbody seen act) = defaultsActive seen cases :=
  fun cases hw hnd => (level_spec.2 cases hw hnd).1
theorem lvl_D : ∀ (cases : List (SN τ)), wfC cases → (cnames cases).Nodup → (cases.map (·.name)).Nodup →
    ∀ (seen : List Tok) (act : Tok → Bool) (dc' : Tok), (∀ n ∈ cnames cases, n ∉ seen) →
    (∀ n ∈ cnames cases, act n = isActiveDefaultCase seen n (some dc') cases) →
    (caseKids cases).flatMap (gbody seen act) = defaultsOfCase dc' cases :=
  fun cases hw hnd => (level_spec.2 cases hw hnd).2

/-- **the defaults `yangDataChildren` adds are the defaults in use** -/
theorem addedDefaults_eq_spec (kids : List (SN τ)) (hw : wfL kids) (hnd : (names kids).Nodup) (seen : List Tok) :
    addedDefaults kids seen = defaultsS seen kids :=
  added_eq_of_lvl kids hnd (lvl_S kids hw hnd) seen

theorem decorateEach_nil (top : List (SN τ)) : decorateEach top [] = [] := by rw [decorateEach.eq_def]
theorem decorateEach_cons (top : List (SN τ)) (d : DN) (r : List DN) :
    decorateEach top (d :: r) =
      (match lookup d.name (dataKids top) with
       | some sn => decorateNode sn d
       | none => d) :: decorateEach top r := by
  conv => lhs; rw [decorateEach.eq_def]; simp only
  cases lookup d.name (dataKids top) <;> rfl
theorem decorateKids_eq (kids : List (SN τ)) (ds : List DN) :
    decorateKids kids ds = decorateEach kids ds ++ addedDefaults kids (dnames ds) := by rw [decorateKids.eq_def]; rfl
theorem decorateNode_container (a : Tok) (pr : Bool) (kids : List (SN τ)) (n : Tok) (dk : List DN) (v : List Bytes) :
    decorateNode (.container a pr kids) (.mk n dk v) = .mk n (decorateKids kids dk) v := by rw [decorateNode.eq_def]
theorem decorateNode_list (a : Tok) (ks : List Tok) (mn : Nat) (mx : Option Nat) (u : List (List (List Tok)))
    (kids : List (SN τ)) (n : Tok) (es : List DN) (v : List Bytes) :
    decorateNode (.list a ks mn mx u kids) (.mk n es v) = .mk n (decorateEntries kids es) v := by rw [decorateNode.eq_def]
theorem decorateNode_leaf (a : Tok) (t : τ) (dv : Option Bytes) (m : Bool) (d : DN) :
    decorateNode (.leaf a t dv m) d = d := by rw [decorateNode.eq_def]
theorem decorateNode_leafList (a : Tok) (t : τ) (mn : Nat) (mx : Option Nat) (d : DN) :
    decorateNode (.leafList a t mn mx) d = d := by rw [decorateNode.eq_def]
theorem decorateNode_choice (a : Tok) (b : Bool) (c : Option Tok) (k : List (SN τ)) (d : DN) :
    decorateNode (.choice a b c k) d = d := by rw [decorateNode.eq_def]
theorem decorateNode_case (a : Tok) (k : List (SN τ)) (d : DN) :
    decorateNode (.case a k) d = d := by rw [decorateNode.eq_def]

theorem decoK_of (kids : List (SN τ)) (hw : wfL kids) (hnd : (names kids).Nodup) (ds : List DN)
    (hE : decorateEach kids ds = decorateEachS kids ds) : decorateKids kids ds = decorateKidsS kids ds := by
  rw [decorateKids_eq, decorateKidsS_eq, hE, addedDefaults_eq_spec kids hw hnd]

mutual
theorem decoE_eq (kids : List (SN τ)) (hw : wfL kids) : ∀ (ds : List DN), decorateEach kids ds = decorateEachS kids ds
  | [] => by rw [decorateEach_nil, decorateEachS_nil]
  | d :: r => by
    rw [decorateEach_cons, decorateEachS_cons, decoE_eq kids hw r]
    congr 1
    cases hl : lookup d.name (dataKids kids) with
    | none => rfl
    | some sn => exact decoN_eq sn (wfN_of_mem_dataKids kids hw sn (lookup_mem _ _ _ hl)) d
theorem decoN_eq : ∀ (sn : SN τ), wfN sn → ∀ (d : DN), decorateNode sn d = decorateNodeS sn d
  | .leaf .., _, d => by rw [decorateNode_leaf, decorateNodeS_leaf]
  | .leafList .., _, d => by rw [decorateNode_leafList, decorateNodeS_leafList]
  | .choice .., _, d => by rw [decorateNode_choice, decorateNodeS_choice]
  | .case .., _, d => by rw [decorateNode_case, decorateNodeS_case]
  | .container a pr kids, hw, .mk n dk v => by
    rw [decorateNode_container, decorateNodeS_container, decoK_of kids hw.1 hw.2 dk (decoE_eq kids hw.1 dk)]
  | .list a ks mn mx u kids, hw, .mk n es v => by
    rw [decorateNode_list, decorateNodeS_list, decoEn_eq kids hw.1 hw.2 es]
theorem decoEn_eq (kids : List (SN τ)) (hw : wfL kids) (hnd : (names kids).Nodup) : ∀ (es : List DN),
    decorateEntries kids es = decorateEntriesS kids es
  | [] => by rw [decorateEntries, decorateEntriesS_nil]
  | .mk en ek v :: r => by
    rw [decorateEntries, decorateEntriesS_cons, decoEn_eq kids hw hnd r, decoK_of kids hw hnd ek (decoE_eq kids hw ek)]
end

/-- **the decorated view of the model is the specification's**, for every well-formed schema and every data tree -/
theorem decorate_eq_spec (top : List (SN τ)) (hw : wfL top) (hnd : (names top).Nodup) (root : DN) :
    decorate top root = decorateS top root := by
  obtain ⟨n, dk, v⟩ := root
  simp only [decorate, decorateS]
  rw [decoK_of top hw hnd dk (decoE_eq top hw dk)]

theorem decorate_idem (top : List (SN τ)) (hw : wfL top) (hnd : (names top).Nodup) (root : DN) :
    decorate top (decorate top root) = decorate top root := by
  rw [decorate_eq_spec top hw hnd root, decorate_eq_spec top hw hnd, decorateS_idem top hw hnd root]

end YV.DS
