/-
  Proofs.YRange — completeness of range / length narrowing: the loop of `createRangeBdry` over the base ranges
  (with its running "merged block") accepts a part exactly when the part lies inside one block of the base after
  adjacent ranges have been merged — so, with the order check, a restriction is accepted iff it is a valid
  restriction in the sense of the specification.  The running block being the head of the list (`fitsBase_cur`),
  the loop recurses as `mergeAdj` does, and the comparison goes along that recursion (`subsetOf_eq_fits`).
-/
import YV.Proofs.YTypes
import YV.Spec.YTypesS
namespace YV.T
open YV YV.Y YV.TS

theorem lastHiOf_head (a c d : Int) : ∀ r, lastHiOf ((a, d) :: r) = lastHiOf ((c, d) :: r)
  | [] => rfl
  | _ :: _ => rfl

theorem fits_cons₂ (s t a b c d : Int) (rest : List (Int × Int)) :
    fitsBase intOps s t none ((a, b) :: (c, d) :: rest) =
      (decide (a ≤ s) && (decide (t ≤ b) || fitsBase intOps s t none ((if b + 1 = c then a else c, d) :: rest))) := by
  rw [fits_cons, fitsBase_cur, blockMin_int]

theorem fits_lt_first (s t a b : Int) (rest : List (Int × Int)) (h : s < a) :
    fitsBase intOps s t none ((a, b) :: rest) = false := by
  rw [fits_cons, decide_eq_false (by omega), Bool.false_and]

/-- sorted with gaps or adjacency: each range is non-empty and starts after the previous one ends -/
def sortedBase : List (Int × Int) → Prop
  | [] => True
  | [(a, b)] => a ≤ b
  | (a, b) :: (c, d) :: rest => a ≤ b ∧ b < c ∧ sortedBase ((c, d) :: rest)

theorem sortedBase_tail {a b : Int} {rest : List (Int × Int)} (h : sortedBase ((a, b) :: rest)) : sortedBase rest := by
  cases rest with
  | nil => trivial
  | cons p r => obtain ⟨c, d⟩ := p; exact h.2.2

theorem sortedBase_head {a b : Int} : ∀ {rest : List (Int × Int)}, sortedBase ((a, b) :: rest) → a ≤ b
  | [], h => h
  | _ :: _, h => h.1

theorem sortedBase_merge {a b c d : Int} {r : List (Int × Int)} (hs : sortedBase ((a, b) :: (c, d) :: r)) :
    sortedBase ((a, d) :: r) := by
  have had : a ≤ d := Int.le_trans hs.1 (Int.le_trans (Int.le_of_lt hs.2.1) (sortedBase_head hs.2.2))
  cases r with
  | nil => exact had
  | cons q r' => exact ⟨had, hs.2.2.2⟩

theorem sorted_le_last : ∀ (rest : List (Int × Int)) (a b : Int), sortedBase ((a, b) :: rest) → b ≤ lastHiOf ((a, b) :: rest)
  | [], _, _, _ => Int.le_refl _
  | (c, d) :: r, _, _, h =>
    Int.le_trans (Int.le_of_lt h.2.1) (Int.le_trans (sortedBase_head h.2.2) (sorted_le_last r c d h.2.2))

/-- merging two adjacent base parts beforehand does not change the loop -/
theorem fits_merge (s t a b d : Int) (rest : List (Int × Int)) (hbd : b ≤ d) :
    fitsBase intOps s t none ((a, b) :: (b + 1, d) :: rest) = fitsBase intOps s t none ((a, d) :: rest) := by
  rw [fits_cons₂, if_pos rfl, fits_cons s t a d]
  by_cases hB : t ≤ b
  · rw [decide_eq_true hB, decide_eq_true (Int.le_trans hB hbd)]; rfl
  · rw [decide_eq_false hB, Bool.false_or, ← Bool.and_assoc, Bool.and_self]

/-- **the loop is the specification**: on a sorted base a part ends within the base and is let through exactly when it
    lies inside one block of the base after adjacent parts have been merged -/
theorem subsetOf_eq_fits (s t : Int) (l : IntSet) (hne : l ≠ []) (hs : sortedBase l) :
    subsetOf (s, t) l = (decide (t ≤ lastHiOf l) && fitsBase intOps s t none l) := by
  unfold subsetOf
  fun_induction mergeAdj l with
  | case1 => exact absurd rfl hne
  | case2 x =>
    obtain ⟨a, b⟩ := x
    rw [fits_cons]
    simp only [List.any_cons, List.any_nil, Bool.or_false, lastHiOf, fitsBase, Bool.or_true, Bool.and_true]
    exact Bool.and_comm _ _
  | case3 a b d rest ih =>
    rw [ih (by simp) (sortedBase_merge hs), lastHiOf, lastHiOf_head a (b + 1),
      fits_merge _ _ _ _ _ _ (Int.le_of_lt (sortedBase_head hs.2.2))]
  | case4 a b c d rest hadj ih =>
    rw [List.any_cons, ih (by simp) hs.2.2, lastHiOf, fits_cons₂, if_neg hadj]
    by_cases hA : a ≤ s
    · by_cases hB : t ≤ b
      · -- the part ends within this base part, hence before the end of the base
        have hL : t ≤ lastHiOf ((c, d) :: rest) := Int.le_trans hB (sorted_le_last _ _ _ hs)
        simp [hA, hB, hL]
      · simp [hA, hB]
    · -- the part begins before this base part, hence before the next one too
      have hc : s < c := Int.lt_trans (Int.lt_of_lt_of_le (Int.not_le.1 hA) (sortedBase_head hs)) hs.2.1
      rw [fits_lt_first s t c d rest hc]
      simp [hA]

/-- **completeness of the loop**: on a sorted base, the part is let through exactly when it lies inside one merged block -/
theorem fits_complete (start stop : Int) (base : List (Int × Int)) (hne : base ≠ []) (hs : sortedBase base)
    (hstop : stop ≤ lastHiOf base) :
    fitsBase intOps start stop none base = subsetOf (start, stop) base := by
  rw [subsetOf_eq_fits start stop base hne hs, decide_eq_true hstop, Bool.true_and]

theorem okPart_eq (base : List (Int × Int)) (hne : base ≠ []) (hs : sortedBase base) (p : Part Int) :
    okPart base p = subsetOf (resolve base p) base := by
  obtain ⟨⟨a, b⟩, r, rfl⟩ := List.exists_cons_of_ne_nil hne
  rw [subsetOf_eq_fits _ _ _ hne hs, okPart, lastHi_eq, Bool.and_assoc]
  by_cases h : firstLo ((a, b) :: r) ≤ (resolve ((a, b) :: r) p).1
  · rw [decide_eq_true h, Bool.true_and]
  · have h' : (resolve ((a, b) :: r) p).1 < a := Int.not_le.1 h
    rw [decide_eq_false h, Bool.false_and, fits_lt_first _ _ _ _ _ h', Bool.and_false]

/-- `createRangeBdry` for one part: the three rejections together say exactly "not inside one merged block" -/
theorem stepPart_eq (base : List (Int × Int)) (hne : base ≠ []) (hs : sortedBase base) (p : Part Int) :
    stepPart intOps base p = if subsetOf (resolve base p) base then some (resolve base p) else none := by
  rw [stepPart_int, okPart_eq base hne hs]

def asc (l : IntSet) : Bool := (l.zip (l.drop 1)).all fun ((_, b1), (a2, _)) => b1 < a2

theorem asc_cons₂ (a b c d : Int) (r : IntSet) : asc ((a, b) :: (c, d) :: r) = (decide (b < c) && asc ((c, d) :: r)) := rfl

/-- `validateRangeBoundaries` says: every part non-empty, each starts after the previous one ends -/
theorem orderedDisjoint_eq : ∀ (rs : List (Int × Int)),
    orderedDisjoint intOps rs = (rs.all (fun (a, b) => a ≤ b) && asc rs) := by
  intro rs
  fun_induction orderedDisjoint intOps rs with
  | case1 => rfl
  | case2 s e => simp [asc, ← Int.not_lt]
  | case3 s1 e1 s2 e2 rest ih =>
    rw [ih, asc_cons₂, List.all_cons (a := (s1, e1)), Bool.eq_iff_iff]
    simp only [intOps_lt, Bool.and_eq_true, Bool.not_eq_true', decide_eq_false_iff_not, decide_eq_true_eq, Int.not_lt]
    -- the second of the three comparisons follows from the other two
    exact ⟨fun ⟨⟨⟨h1, _⟩, h3⟩, hA, hB⟩ => ⟨⟨h1, hA⟩, h3, hB⟩,
      fun ⟨⟨h1, hA⟩, h3, hB⟩ => ⟨⟨⟨h1, Int.le_trans h1 (Int.le_of_lt h3)⟩, h3⟩, hA, hB⟩⟩

theorem orderedDisjoint_sorted (rs : List (Int × Int)) (h : orderedDisjoint intOps rs = true) : sortedBase rs := by
  fun_induction orderedDisjoint intOps rs with
  | case1 => trivial
  | case2 s e => exact Int.not_lt.1 (by simpa using h)
  | case3 s1 e1 s2 e2 rest ih =>
    simp only [intOps_lt, Bool.and_eq_true, Bool.not_eq_true', decide_eq_false_iff_not, Int.not_lt, decide_eq_true_eq] at h
    exact ⟨h.1.1.1, h.1.2, ih h.2⟩

/-- **range / length narrowing is exactly the specification** (integers and lengths): on a base that is sorted —
    which every base the compiler builds is, see `restrict_keeps_sorted` — the compiler accepts a restriction
    precisely when the specification does, with the same resulting set -/
theorem restrict_eq_spec (base : List (Int × Int)) (hne : base ≠ []) (hs : sortedBase base) (parts : List (Part Int)) :
    restrict intOps base parts = validRestriction base (parts.map fun p => (p.lo, p.hi)) := by
  have hrs : (parts.map fun p => (p.lo, p.hi)).map (fun x : Option Int × Option Int =>
      (x.1.getD ((base.head?.map (·.1)).getD 0), x.2.getD ((base.getLast?.map (·.2)).getD 0))) = parts.map (resolve base) := by
    simp only [List.map_map]; rfl
  have hall : (parts.map (resolve base)).all (fun p => subsetOf p base) = parts.all (fun p => subsetOf (resolve base p) base) :=
    List.all_map
  rw [restrict_int, funext (okPart_eq base hne hs), validRestriction]
  simp only
  rw [hrs]
  -- `validRestriction` as it is written, its ascending test being `asc`
  change _ = if (parts.map (resolve base)).isEmpty then none
    else if ((parts.map (resolve base)).all (fun (a, b) => a ≤ b) && asc (parts.map (resolve base)) &&
      (parts.map (resolve base)).all (fun p => subsetOf p base)) then some (parts.map (resolve base)) else none
  rw [← orderedDisjoint_eq, hall, List.isEmpty_map]
  generalize parts.all _ = A
  generalize orderedDisjoint intOps _ = O
  cases A <;> cases O <;> cases parts.isEmpty <;> rfl

/-- the invariant that makes `restrict_eq_spec` apply at every level of a derivation chain -/
theorem restrict_keeps_sorted (base : List (Int × Int)) (parts : List (Part Int)) (rs : List (Int × Int))
    (h : restrict intOps base parts = some rs) : rs ≠ [] ∧ sortedBase rs :=
  ⟨(restrict_some h).2.2.1, orderedDisjoint_sorted _ (restrict_some h).2.2.2⟩

/-- a chain of accepted restrictions only ever narrows -/
theorem chain_sound (chain : List (List (Part Int))) : ∀ (base : List (Int × Int)), base ≠ [] →
    ∀ final, chain.foldlM (fun cur parts => restrict intOps cur parts) base = some final →
      ∀ v, InSet final v → InSet base v := by
  induction chain with
  | nil => intro base _ final h v hv; cases h; exact hv
  | cons parts rest ih =>
    intro base hne final h v hv
    rw [List.foldlM_cons] at h
    cases hr : restrict intOps base parts with
    | none => rw [hr] at h; cases h
    | some rs =>
      rw [hr] at h
      exact (restrict_sound base hne parts rs hr).1 v (ih rs (restrict_keeps_sorted base parts rs hr).1 final h v hv)

/-- … and so along a whole chain of derivations -/
theorem chain_is_spec (chain : List (List (Part Int))) : ∀ (base : List (Int × Int)), base ≠ [] → sortedBase base →
    chain.foldlM (fun cur parts => restrict intOps cur parts) base =
      chain.foldlM (fun cur parts => validRestriction cur (parts.map fun p => (p.lo, p.hi))) base := by
  induction chain with
  | nil => intro base _ _; rfl
  | cons parts rest ih =>
    intro base hne hs
    simp only [List.foldlM_cons]
    rw [← restrict_eq_spec base hne hs parts]
    cases hr : restrict intOps base parts with
    | none => rfl
    | some rs =>
      have := restrict_keeps_sorted base parts rs hr
      simp only [Option.bind_eq_bind, Option.bind_some]
      exact ih rs this.1 this.2

end YV.T
