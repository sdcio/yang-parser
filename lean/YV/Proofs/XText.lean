/-
  Proofs.XText — from the text of an expression to its program: the lexer's read-back (XLexR) composed with the
  parser's precedence theorem (XPrec), through `build` = New…Machine of the model.
-/
import YV.Proofs.XLexR
import YV.Proofs.XPrec
import YV.Proofs.XBuild
namespace YV.XP
open YV YV.X YV.XL YV.XC

/-- a token an operand ends with -/
def endTok (p : Tok) : Prop :=
  (∃ x, p = .num x) ∨ (∃ l, p = .lit l) ∨ p = .ch (chr ')') ∨ (∃ q l, p = .nametest q l) ∨ p = .dotdot ∨ p = .ch (chr '.') ∨
    p = .ch (chr ']')

theorem end_num (x : SF) : endTok (.num x) := .inl ⟨x, rfl⟩
theorem end_lit (l : List Rune) : endTok (.lit l) := .inr (.inl ⟨l, rfl⟩)
theorem end_rparen : endTok (.ch (chr ')')) := .inr (.inr (.inl rfl))
theorem end_name (q l : List Rune) : endTok (.nametest q l) := .inr (.inr (.inr (.inl ⟨q, l, rfl⟩)))
theorem end_dotdot : endTok .dotdot := .inr (.inr (.inr (.inr (.inl rfl))))
theorem end_dot : endTok (.ch (chr '.')) := .inr (.inr (.inr (.inr (.inr (.inl rfl)))))
theorem end_rbracket : endTok (.ch (chr ']')) := .inr (.inr (.inr (.inr (.inr (.inr rfl)))))

theorem canOp_end {p : Tok} (h : endTok p) : canBeOperator (some p) = true := by
  rcases h with ⟨x, rfl⟩ | ⟨l, rfl⟩ | rfl | ⟨q, l, rfl⟩ | rfl | rfl | rfl <;> rfl

theorem canOp_opTok (op : BinOp) : canBeOperator (some (opTok op)) = false := by
  cases op <;> rfl

theorem ctx_plain (prev : Option Tok) (t : Tok) (r : List Tok) (h1 : needsOp t = false) (h2 : ∀ fn, t ≠ .func fn)
    (h3 : ∀ p l, t ≠ .nametest p l) (h4 : t ≠ .currentfunc) (h : ctxOK (some t) r) : ctxOK prev (t :: r) :=
  ⟨fun h' => (by rw [h1] at h'; cases h'), fun fn e => absurd e (h2 fn), fun p l e => absurd e (h3 p l),
    fun e => absurd e h4, h⟩

theorem ctx_ch (prev : Option Tok) (c : Char) (r : List Tok) (hc : chr c ≠ chr '*') (h : ctxOK (some (.ch (chr c))) r) :
    ctxOK prev (.ch (chr c) :: r) :=
  ctx_plain prev _ r (decide_eq_false hc) (fun _ => nofun) (fun _ _ => nofun) nofun h

theorem ctx_func (prev : Option Tok) (fn : Fn) (r : List Tok) (hp : canBeOperator prev = false)
    (h : ctxOK (some (.ch (chr '('))) r) : ctxOK prev (.func fn :: .ch (chr '(') :: r) :=
  ⟨nofun, fun _ _ => ⟨hp, rfl⟩, fun _ _ => nofun, nofun, ctx_ch _ '(' r (by simp [chr]) h⟩

theorem ctx_name (prev : Option Tok) (p l : List Rune) (r : List Tok) (hp : canBeOperator prev = false)
    (hr : r.head? ≠ some (.ch (chr '('))) (h : ctxOK (some (.nametest p l)) r) : ctxOK prev (.nametest p l :: r) :=
  ⟨nofun, fun _ => nofun, fun _ _ _ => ⟨hp, hr⟩, nofun, h⟩

theorem ctx_cur (prev : Option Tok) (r : List Tok) (hp : canBeOperator prev = false)
    (h : ctxOK (some (.ch (chr '('))) r) : ctxOK prev (.currentfunc :: .ch (chr '(') :: r) :=
  ⟨nofun, fun _ => nofun, fun _ _ => nofun, fun _ => ⟨hp, rfl⟩, ctx_ch _ '(' r (by simp [chr]) h⟩

/-- an operator token is none of the tokens after which an operator may stand (function names, name tests, …) -/
theorem opTok_ne (op : BinOp) {t : Tok} (ht : canBeOperator (some t) = true) : opTok op ≠ t :=
  fun e => Bool.false_ne_true ((canOp_opTok op).symm.trans (e ▸ ht))

theorem ctx_op {p : Tok} (hp : endTok p) (op : BinOp) (r : List Tok) (h : ctxOK (some (opTok op)) r) :
    ctxOK (some p) (opTok op :: r) :=
  ⟨fun _ => canOp_end hp, fun _ e => absurd e (opTok_ne op rfl), fun _ _ e => absurd e (opTok_ne op rfl),
    fun e => absurd e (opTok_ne op rfl), h⟩

theorem canOp_lparen : canBeOperator (some (.ch (chr '('))) = false := rfl
theorem canOp_comma : canBeOperator (some (.ch (chr ','))) = false := rfl
theorem canOp_minus : canBeOperator (some (.ch (chr '-'))) = false := rfl
theorem canOp_slash : canBeOperator (some (.ch (chr '/'))) = false := rfl
theorem canOp_bar : canBeOperator (some (.ch (chr '|'))) = false := rfl
theorem canOp_lbracket : canBeOperator (some (.ch (chr '['))) = false := rfl

/-- the contents of a predicate satisfy the lexer's context conditions wherever an expression may start -/
def BlkCtx (b : Blk) : Prop :=
  ∀ (prev : Option Tok) (rest : List Tok), canBeOperator prev = false → (∀ p, endTok p → ctxOK (some p) rest) →
    rest.head? ≠ some (.ch (chr '(')) → ctxOK prev (b.toks ++ rest)

theorem sep_head (r : List PStep) (rest : List Tok) (h : rest.head? ≠ some (.ch (chr '('))) :
    (sepToks r ++ rest).head? ≠ some (.ch (chr '(')) := by
  cases r with
  | nil => simpa [sepToks] using h
  | cons a r => simp [sepToks, chr]

theorem ctx_preds (rest : List Tok) (hr : ∀ p, endTok p → ctxOK (some p) rest) :
    ∀ (preds : List Blk) (p0 : Tok), endTok p0 → (∀ b ∈ preds, BlkCtx b) → ctxOK (some p0) (blkToks preds ++ rest) := by
  intro preds
  induction preds with
  | nil => intro p0 h0 _; exact hr p0 h0
  | cons b r ih =>
    intro p0 _ hall
    simp only [blkToks, List.cons_append, List.append_assoc]
    exact ctx_ch _ '[' _ (by simp [chr]) (hall b List.mem_cons_self _ _ canOp_lbracket
      (fun p _ => ctx_ch _ ']' _ (by simp [chr]) (ih _ end_rbracket fun x hx => hall x (List.mem_cons_of_mem _ hx))) (by simp [chr]))

theorem preds_head (preds : List Blk) (r : List Tok) (h : r.head? ≠ some (.ch (chr '('))) :
    (blkToks preds ++ r).head? ≠ some (.ch (chr '(')) := by
  cases preds with
  | nil => simpa [blkToks] using h
  | cons b x => simp [blkToks, chr]

theorem ctx_step (prev : Option Tok) (st : PStep) (r : List Tok) (hp : canBeOperator prev = false)
    (hr : r.head? ≠ some (.ch (chr '('))) (hall : ∀ b ∈ st.preds, BlkCtx b) (h : ∀ p, endTok p → ctxOK (some p) r) :
    ctxOK prev (st.tok :: (st.rest ++ r)) := by
  cases st with
  | name p l preds =>
    exact ctx_name prev p l _ hp (preds_head preds r hr) (ctx_preds r h preds _ (end_name p l) hall)
  | up => exact ctx_plain prev _ _ rfl (fun _ => nofun) (fun _ _ => nofun) nofun (h _ end_dotdot)
  | dot => exact ctx_ch prev '.' _ (by simp [chr]) (h _ end_dot)

/-- `/` may follow anything; only with no step left does the token before matter -/
theorem ctx_steps (rest : List Tok) (hr : ∀ p, endTok p → ctxOK (some p) rest) (hh : rest.head? ≠ some (.ch (chr '('))) :
    ∀ (steps : List PStep) (prev : Option Tok), (steps = [] → ctxOK prev rest) →
      (∀ st ∈ steps, ∀ b ∈ st.preds, BlkCtx b) → ctxOK prev (sepToks steps ++ rest) := by
  intro steps
  induction steps with
  | nil => intro prev h0 _; exact h0 rfl
  | cons st r ih =>
    intro prev _ hall
    simp only [sepToks, List.cons_append, List.append_assoc]
    exact ctx_ch _ '/' _ (by simp [chr]) (ctx_step _ st _ canOp_slash (sep_head r rest hh) (hall st List.mem_cons_self)
      (fun p hp => ih _ (fun _ => hr p hp) fun x hx => hall x (List.mem_cons_of_mem _ hx)))

/-- the predicates of a path can be written -/
def pathCtx : PRoot → List PStep → Prop
  | .rel f, steps => (∀ b ∈ f.preds, BlkCtx b) ∧ ∀ st ∈ steps, ∀ b ∈ st.preds, BlkCtx b
  | _, steps => ∀ st ∈ steps, ∀ b ∈ st.preds, BlkCtx b

/-- the expression can be written: no bare `/` among the operands (after it an operator name is taken for a name),
    and the contents of its predicates can be written -/
def PE.lexable : PE → Prop
  | .path root steps => ¬(root = .abs ∧ steps = []) ∧ pathCtx root steps
  | .num _ => True
  | .lit _ => True
  | .paren e => e.lexable
  | .neg e => e.lexable
  | .bin _ a b => a.lexable ∧ b.lexable
  | .union a b => a.lexable ∧ b.lexable
  | .call0 _ => True
  | .call1 _ a => a.lexable
  | .call2 _ a b => a.lexable ∧ b.lexable
  | .call3 _ a b c => a.lexable ∧ b.lexable ∧ c.lexable

theorem opTok_not_lparen (op : BinOp) : opTok op ≠ .ch (chr '(') := by
  cases op <;> decide

/-- every written expression can stand in a predicate: its tokens meet the lexer's context conditions.  Induction
    over `e` with the token before (`prev`) and the tokens after (`rest`) general; `hr` says that `rest` is fine after
    any token an operand ends with, which is what each sub-expression hands on to what follows it. -/
theorem ctx_of (e : PE) (hl : e.lexable) : BlkCtx ⟨e.toks, e.code⟩ := by
  -- `BlkCtx` unfolded
  show ∀ (prev : Option Tok) (rest : List Tok), canBeOperator prev = false →
    (∀ p, endTok p → ctxOK (some p) rest) → rest.head? ≠ some (.ch (chr '(')) → ctxOK prev (e.toks ++ rest)
  revert hl
  have close : ∀ rest : List Tok, (∀ p, endTok p → ctxOK (some p) rest) →
      ∀ p, endTok p → ctxOK (some p) (.ch (chr ')') :: rest) :=
    fun rest hr p _ => ctx_ch _ ')' rest (by simp [chr]) (hr _ end_rparen)
  have hrp : ∀ rest : List Tok, (Tok.ch (chr ')') :: rest).head? ≠ some (.ch (chr '(')) := fun _ => by simp [chr]
  have hcm : ∀ rest : List Tok, (Tok.ch (chr ',') :: rest).head? ≠ some (.ch (chr '(')) := fun _ => by simp [chr]
  induction e with
  | path root steps =>
    intro hl prev rest hp hr hh
    obtain ⟨hl1, hl2⟩ := hl
    cases root with
    | abs =>
      cases steps with
      | nil => exact absurd ⟨rfl, rfl⟩ hl1
      | cons st r => exact ctx_steps rest hr hh (st :: r) prev nofun hl2
    | rel f =>
      simp only [PE.toks, pathToks, List.cons_append, List.append_assoc]
      exact ctx_step prev f _ hp (sep_head steps rest hh) hl2.1
        (fun p hpe => ctx_steps rest hr hh steps _ (fun _ => hr p hpe) hl2.2)
    | cur =>
      simp only [PE.toks, pathToks, List.cons_append]
      exact ctx_cur prev _ hp (ctx_ch _ ')' _ (by simp [chr])
        (ctx_steps rest hr hh steps _ (fun _ => hr _ end_rparen) hl2))
  | num x =>
    intro _ prev rest _ hr _
    exact ctx_plain prev _ rest rfl (fun _ => nofun) (fun _ _ => nofun) nofun (hr _ (end_num x))
  | lit l =>
    intro _ prev rest _ hr _
    exact ctx_plain prev _ rest rfl (fun _ => nofun) (fun _ _ => nofun) nofun (hr _ (end_lit l))
  | paren e ih =>
    intro hn prev rest _ hr _
    simp only [PE.toks, List.cons_append, List.append_assoc]
    exact ctx_ch prev '(' _ (by simp [chr]) (ih hn _ _ canOp_lparen (close rest hr) (hrp rest))
  | neg e ih =>
    intro hn prev rest _ hr hh
    simp only [PE.toks, List.cons_append]
    exact ctx_ch prev '-' _ (by simp [chr]) (ih hn _ _ canOp_minus hr hh)
  | bin op a b iha ihb =>
    intro hn prev rest hp hr hh
    simp only [PE.toks, List.append_assoc, List.cons_append]
    exact iha hn.1 prev _ hp (fun p hpe => ctx_op hpe op _ (ihb hn.2 _ rest (canOp_opTok op) hr hh))
      (by simp [opTok_not_lparen op])
  | union a b iha ihb =>
    intro hn prev rest hp hr hh
    simp only [PE.toks, List.append_assoc, List.cons_append]
    exact iha hn.1 prev _ hp (fun p _ => ctx_ch (some p) '|' _ (by simp [chr]) (ihb hn.2 _ rest canOp_bar hr hh))
      (by simp [chr])
  | call0 fn =>
    intro _ prev rest hp hr _
    exact ctx_func prev fn _ hp (ctx_ch _ ')' rest (by simp [chr]) (hr _ end_rparen))
  | call1 fn a iha =>
    intro hn prev rest hp hr _
    simp only [PE.toks, List.cons_append, List.append_assoc]
    exact ctx_func prev fn _ hp (iha hn _ _ canOp_lparen (close rest hr) (hrp rest))
  | call2 fn a b iha ihb =>
    intro hn prev rest hp hr _
    simp only [PE.toks, List.cons_append, List.append_assoc]
    exact ctx_func prev fn _ hp (iha hn.1 _ _ canOp_lparen (fun p _ =>
      ctx_ch _ ',' _ (by simp [chr]) (ihb hn.2 _ _ canOp_comma (close rest hr) (hrp rest))) (hcm _))
  | call3 fn a b c iha ihb ihc =>
    intro hn prev rest hp hr _
    simp only [PE.toks, List.cons_append, List.append_assoc]
    exact ctx_func prev fn _ hp (iha hn.1 _ _ canOp_lparen (fun p _ =>
      ctx_ch _ ',' _ (by simp [chr]) (ihb hn.2.1 _ _ canOp_comma (fun p _ =>
        ctx_ch _ ',' _ (by simp [chr]) (ihc hn.2.2 _ _ canOp_comma (close rest hr) (hrp rest))) (hcm _))) (hcm _))

/-- from the text to the program: `lex_text`, then `parseExprToks_spec`, then `build_of_ok`.  `build false` only: the
    parser theorem is stated for the lenient parser. -/
theorem text_to_program (e : PE) (hf : e.fits 0) (hn : e.lexable) (items : List Item) (hi : items.map (·.tok) = e.toks)
    (hok : ∀ i ∈ items, i.ok) (hgl : glued items) (lead : List Rune) (hl : ∀ x ∈ lead, isWS x = true) (pm : PfxMap)
    (hpf : ∀ i ∈ items, ∀ p l, i.tok = .nametest p l → pfxOk pm p = true)
    (fixed : Bool) (bs : List Nat) (hbs : (decode bs).map (·.cp) = lead ++ renderX items) :
    build false fixed .expr pm bs = .machine (e.tree.code ++ [.store]) := by
  have hne : bs.isEmpty = false := by
    cases bs with
    | cons b r => rfl
    | nil =>
      -- no byte, no rune, no item, no token: but an expression has a first token
      obtain ⟨t, r, ht, _⟩ := toks_start e
      have h0 : lead ++ renderX items = [] := hbs.symm
      have h1 := renderX_length items hok
      rw [(List.append_eq_nil_iff.mp h0).2] at h1
      rw [List.eq_nil_of_length_eq_zero (Nat.le_zero.mp h1), ht] at hi
      cases hi
  have hctx : ctxOK none (items.map (·.tok)) := by
    rw [hi, ← List.append_nil e.toks]
    exact ctx_of e hn none [] rfl (fun _ _ => trivial) nofun
  have hlex := lex_text false pm items lead hl hok hgl hctx hpf (decode bs) hbs
  rw [hi] at hlex
  obtain ⟨s', p1, p2, p3⟩ := parseExprToks_spec e hf _ hlex
  rw [← p2]
  exact build_of_ok false fixed .expr pm bs hne s' p1 p3

end YV.XP
