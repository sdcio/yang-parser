/-
  Proofs.YTypes — a derived integer / length restriction the compiler accepts denotes a subset of its base
  (and is ordered and disjoint): `createRangeBdry` is sound for every base and every restriction, any number
  of parts, with contiguous base parts merged on the fly.  What `createRangeBdry` asks of one part is named
  (`okPart`), and `stepPart` / `restrict` are characterised through it for every base (`stepPart_int`,
  `restrict_int`); soundness here and completeness (Proofs.YRange) both start from there.  First: the positional
  value of a digit string (`natOf`).  At the end: one level of `BuildType` (`build_go_cons`), and what follows from
  it for the default of a chain of levels.
-/
import YV.Model.YTypes
import YV.Proofs.Lists
namespace YV.T
open YV

theorem natOf_foldl (acc : Nat) (l : Y.Bytes) :
    l.foldl (fun a c => a * 10 + (c - 48)) acc = acc * 10 ^ l.length + natOf l := by
  induction l generalizing acc with
  | nil => exact (Nat.mul_one acc).symm
  | cons c r ih =>
    -- both folds over `r`, from `acc * 10 + (c - 48)` and from `0 * 10 + (c - 48)`, by the induction hypothesis
    rw [natOf, List.foldl_cons, List.foldl_cons, ih, ih (0 * 10 + (c - 48)), Nat.zero_mul, Nat.zero_add,
      List.length_cons, Nat.pow_succ', Nat.add_mul, Nat.mul_assoc, Nat.add_assoc]

theorem natOf_append (a b : Y.Bytes) : natOf (a ++ b) = natOf a * 10 ^ b.length + natOf b := by
  unfold natOf
  rw [List.foldl_append]
  exact natOf_foldl _ b

theorem natOf_cons (c : Nat) (r : Y.Bytes) : natOf (c :: r) = (c - 48) * 10 ^ r.length + natOf r :=
  (natOf_append [c] r).trans (by simp [natOf])

theorem natOf_lt (l : Y.Bytes) (h : l.all YC.isDig = true) : natOf l < 10 ^ l.length := by
  induction l with
  | nil => exact Nat.one_pos
  | cons c r ih =>
    simp only [List.all_cons, Bool.and_eq_true, YC.isDig, decide_eq_true_eq] at h
    have := ih h.2
    have := Nat.mul_le_mul_right (10 ^ r.length) (by omega : c - 48 ≤ 9)
    rw [natOf_cons, List.length_cons, Nat.pow_succ]
    omega

theorem natOf_eq_zero_iff : ∀ (r : Y.Bytes), r.all YC.isDig = true → (natOf r = 0 ↔ r.all (· = 48) = true)
  | [], _ => by simp [natOf]
  | c :: r, hd => by
    simp only [List.all_cons, Bool.and_eq_true, YC.isDig, decide_eq_true_eq] at hd ⊢
    have hp : 10 ^ r.length ≠ 0 := Nat.ne_of_gt (Nat.pow_pos (by decide))
    rw [natOf_cons, Nat.add_eq_zero_iff, Nat.mul_eq_zero, ← natOf_eq_zero_iff r hd.2]
    constructor
    · rintro ⟨h | h, h'⟩
      · exact ⟨by omega, h'⟩
      · exact absurd h hp
    · rintro ⟨rfl, h'⟩; exact ⟨Or.inl rfl, h'⟩

@[simp] theorem intOps_lt (a b : Int) : intOps.lt a b = decide (a < b) := rfl
@[simp] theorem intOps_contig (a b : Int) : intOps.contiguous a b = (a + 1 == b) := rfl

def InSet (rs : List (Int × Int)) (v : Int) : Prop := ∃ p ∈ rs, p.1 ≤ v ∧ v ≤ p.2

theorem inRanges_iff (rs : List (Int × Int)) (v : Int) : inRanges rs v = true ↔ InSet rs v := by
  simp only [inRanges, List.any_eq_true, Bool.and_eq_true, decide_eq_true_eq, InSet]

/-- `lastHi` by structural recursion (`lastHi_eq`): inductions over the base follow it, where `lastHi` goes through
    `getLast?` -/
def lastHiOf : List (Int × Int) → Int
  | [] => 0
  | [(_, e)] => e
  | _ :: b :: r => lastHiOf (b :: r)

theorem lastHi_eq : ∀ l : List (Int × Int), lastHi l = lastHiOf l
  | [] => rfl
  | [(_, _)] => rfl
  | _ :: b :: r => by
    have ih := lastHi_eq (b :: r)
    simp only [lastHi, List.getLast?_cons_cons] at ih ⊢
    exact ih

/-- the running block is the head of the list: the loop goes on as if the base part at hand began where the
    block does -/
theorem fitsBase_cur {α} (o : Ops α) (s t : α) (cur : Option (α × α)) (cs ce : α) (rest : List (α × α)) :
    fitsBase o s t cur ((cs, ce) :: rest) = fitsBase o s t none ((blockMin o cur cs, ce) :: rest) := by
  simp only [fitsBase]; rfl

/-- one turn of the loop, on integers -/
theorem fits_cons (s t a b : Int) (rest : List (Int × Int)) :
    fitsBase intOps s t none ((a, b) :: rest) =
      (decide (a ≤ s) && (decide (t ≤ b) || fitsBase intOps s t (some (a, b)) rest)) := by
  simp only [fitsBase, blockMin, intOps_lt, ← Int.not_le, decide_not]
  -- the two `if`s of the loop in each of the four cases of its two comparisons
  cases decide (a ≤ s) <;> cases decide (t ≤ b) <;> rfl

theorem blockMin_int (mn mx cs : Int) : blockMin intOps (some (mn, mx)) cs = if mx + 1 = cs then mn else cs := by
  simp only [blockMin, intOps_contig, beq_iff_eq]

theorem blockMin_sound (S : Int → Prop) (cur : Option (Int × Int)) (cs ce : Int)
    (hcur : ∀ mn mx, cur = some (mn, mx) → ∀ v, mn ≤ v → v ≤ mx → S v)
    (hpart : ∀ v, cs ≤ v → v ≤ ce → S v) :
    ∀ v, blockMin intOps cur cs ≤ v → v ≤ ce → S v := by
  intro v hv1 hv2
  match cur with
  | none => exact hpart v hv1 hv2
  | some (mn, mx) =>
    rw [blockMin_int] at hv1
    split at hv1
    next hadj =>
      by_cases hle : v ≤ mx
      · exact hcur mn mx rfl v hv1 hle
      · exact hpart v (hadj ▸ Int.not_le.1 hle) hv2      -- `mx < v` is `mx + 1 ≤ v`
    next => exact hpart v hv1 hv2

/-- the loop of `createRangeBdry`: if it lets [start, stop] through, every value of it is a value of the
    base (S), provided the block accumulated so far and all remaining base parts are within S -/
theorem fits_sound (S : Int → Prop) (start stop : Int) (rest : List (Int × Int)) (cur : Option (Int × Int))
    (hne : rest ≠ [])
    (hcur : ∀ mn mx, cur = some (mn, mx) → ∀ v, mn ≤ v → v ≤ mx → S v)
    (hrest : ∀ p ∈ rest, ∀ v, p.1 ≤ v → v ≤ p.2 → S v)
    (hlast : stop ≤ lastHiOf rest)
    (h : fitsBase intOps start stop cur rest = true) :
    ∀ v, start ≤ v → v ≤ stop → S v := by
  induction rest generalizing cur with
  | nil => exact absurd rfl hne
  | cons p rest' ih =>
    obtain ⟨cs, ce⟩ := p
    have hb := blockMin_sound S cur cs ce hcur (hrest (cs, ce) (List.mem_cons_self ..))
    rw [fitsBase_cur, fits_cons] at h
    simp only [Bool.and_eq_true, Bool.or_eq_true, decide_eq_true_eq] at h
    intro v hv1 hv2
    have hv := Int.le_trans h.1 hv1
    rcases h.2 with h2 | h2
    · exact hb v hv (Int.le_trans hv2 h2)
    · cases rest' with
      | nil => exact hb v hv (Int.le_trans hv2 hlast)
      | cons q r =>
        exact ih (some (blockMin intOps cur cs, ce)) (List.cons_ne_nil _ _) (by rintro _ _ ⟨⟩; exact hb)
          (fun p' hp' => hrest p' (List.mem_cons_of_mem _ hp')) hlast h2 v hv1 hv2

def resolve (base : List (Int × Int)) (p : Part Int) : Int × Int := (p.lo.getD (firstLo base), p.hi.getD (lastHi base))

/-- what `createRangeBdry` asks of one part, `min` / `max` resolved: within the ends of the base, and through the loop -/
def okPart (base : List (Int × Int)) (p : Part Int) : Bool :=
  decide (firstLo base ≤ (resolve base p).1) && decide ((resolve base p).2 ≤ lastHi base) &&
    fitsBase intOps (resolve base p).1 (resolve base p).2 none base

/-- a boundary that is `min` / `max` is not compared with the end of the base: it is that end -/
theorem isSome_and_getD (o : Option Int) (d : Int) :
    (o.isSome && decide (o.getD d < d)) = !decide (d ≤ o.getD d) ∧
    (o.isSome && decide (d < o.getD d)) = !decide (o.getD d ≤ d) := by
  cases o <;> simp [← Int.not_le]

theorem stepPart_int (base : List (Int × Int)) (p : Part Int) :
    stepPart intOps base p = if okPart base p then some (resolve base p) else none := by
  simp only [stepPart, okPart, resolve, intOps_lt, isSome_and_getD]
  -- three rejections in a row = the conjunction of the three tests fails
  have key : ∀ (a b c : Bool) (x : Int × Int),
      (if (!a) = true then none else if (!b) = true then none else if (!c) = true then none else some x) =
        if (a && b && c) = true then some x else none := by
    intro a b c x; cases a <;> cases b <;> cases c <;> rfl
  exact key _ _ _ _

theorem okPart_sound (base : List (Int × Int)) (hne : base ≠ []) (p : Part Int) (h : okPart base p = true) :
    ∀ v, (resolve base p).1 ≤ v → v ≤ (resolve base p).2 → InSet base v := by
  simp only [okPart, Bool.and_eq_true, decide_eq_true_eq, lastHi_eq] at h
  exact fits_sound (InSet base) _ _ base none hne (by rintro _ _ ⟨⟩) (fun p' hp' v hv1 hv2 => ⟨p', hp', hv1, hv2⟩)
    h.1.2 h.2

theorem stepPart_sound (base : List (Int × Int)) (hne : base ≠ []) (p : Part Int) (q : Int × Int)
    (h : stepPart intOps base p = some q) : ∀ v, q.1 ≤ v → v ≤ q.2 → InSet base v := by
  rw [stepPart_int] at h
  split at h
  · cases h; exact okPart_sound base hne p ‹_›
  · cases h

/-- `createRangeBdry` + `validateRangeBoundaries` over all parts -/
theorem restrict_int (base : List (Int × Int)) (parts : List (Part Int)) :
    restrict intOps base parts =
      if parts.all (okPart base) && !parts.isEmpty && orderedDisjoint intOps (parts.map (resolve base))
      then some (parts.map (resolve base)) else none := by
  rw [restrict, funext (stepPart_int base), mapM_ite]
  cases parts.all (okPart base) <;> cases parts <;> simp

theorem restrict_some {base : List (Int × Int)} {parts : List (Part Int)} {rs : List (Int × Int)}
    (h : restrict intOps base parts = some rs) :
    rs = parts.map (resolve base) ∧ (∀ p ∈ parts, okPart base p = true) ∧ rs ≠ [] ∧
      orderedDisjoint intOps rs = true := by
  rw [restrict_int] at h
  split at h
  · rename_i hc
    cases h
    simp only [Bool.and_eq_true, List.all_eq_true, Bool.not_eq_true', List.isEmpty_eq_false_iff] at hc
    exact ⟨rfl, hc.1.1, by simpa using hc.1.2, hc.2⟩
  · cases h

/-- **soundness of range / length restriction** (integer types, string lengths): whatever the base and
    whatever is written, if `createRangeBdry` accepts, every value of the result is a value of the base,
    and the result is in ascending order with pairwise disjoint parts. -/
theorem restrict_sound (base : List (Int × Int)) (hne : base ≠ []) (parts : List (Part Int)) (rs : List (Int × Int))
    (h : restrict intOps base parts = some rs) :
    (∀ v, InSet rs v → InSet base v) ∧ orderedDisjoint intOps rs = true := by
  obtain ⟨rfl, hok, _, hod⟩ := restrict_some h
  refine ⟨?_, hod⟩
  rintro v ⟨q, hq, hv⟩
  obtain ⟨p, hp, rfl⟩ := List.mem_map.1 hq
  exact okPart_sound base hne p (hok p hp) v hv.1 hv.2

/-- one level of `BuildType` -/
theorem build_go_cons (t : Ty) (d : Option Y.Bytes) (lv : Level) (rest : List Level) (r : Ty × Option Y.Bytes) :
    build.go t d (lv :: rest) = some r ↔
      ∃ t', applyLevel t lv = some t' ∧ (∀ dv, nearer lv.dflt d = some dv → validate t' dv = true) ∧
        build.go t' (nearer lv.dflt d) rest = some r := by
  rw [build.go]
  cases applyLevel t lv with
  | none => simp
  | some t' =>
    cases nearer lv.dflt d with
    | none => simp
    | some dv => by_cases hv : validate t' dv = true <;> simp [hv]

theorem build_go_default (levels : List Level) (t : Ty) (d : Option Y.Bytes) :
    ∀ (t0 : Ty) (d0 : Option Y.Bytes), build.go t0 d0 levels = some (t, d) →
      d = levels.foldl (fun d lv => nearer lv.dflt d) d0 := by
  induction levels with
  | nil => intro t0 d0 h; cases h; rfl
  | cons lv rest ih =>
    intro t0 d0 h
    obtain ⟨t', _, _, h'⟩ := (build_go_cons ..).1 h
    exact ih t' _ h'

/-- the default a chain ends with is a value of the type it ends with, as soon as one level has been applied -/
theorem build_go_valid (levels : List Level) (t : Ty) (d : Option Y.Bytes) (dv : Y.Bytes) (hd : d = some dv) :
    ∀ (t0 : Ty) (d0 : Option Y.Bytes), (levels = [] → validate t0 dv = true) → build.go t0 d0 levels = some (t, d) →
      validate t dv = true := by
  induction levels with
  | nil => intro t0 d0 h0 h; cases h; exact h0 rfl
  | cons lv rest ih =>
    intro t0 d0 _ h
    obtain ⟨t', _, hv, h'⟩ := (build_go_cons ..).1 h
    refine ih t' _ (fun hr => ?_) h'
    subst hr; cases h'; exact hv dv hd

end YV.T
