/-
  Proofs.XNames — every name test of a compiled must / when / path expression carries a prefix that the map
  of the module the text is written in accepts: the lexer hands out a NAMETEST token only after `pfxOk`, and
  both parsers emit a Name-Push only for the NAMETEST token they are looking at (an instance of `Stable`).
  `Keeps pm` is `Lands (InvN pm)`, and `InvK` is the walk of XWalk stated function by function in these terms; the
  theorems about the two parsers as a whole do not go through it.
-/
import YV.Proofs.XWalk
import YV.Proofs.XFuncs
import YV.Proofs.XBuild
namespace YV.XP
open YV YV.X YV.XL

def okTok (pm : PfxMap) : Tok → Prop
  | .nametest p _ => pfxOk pm p = true
  | _ => True

def okPI (pm : PfxMap) : PI → Prop
  | .namePush p _ => pfxOk pm p = true
  | _ => True

/-- all NAMETEST tokens still to be read, and all Name-Push instructions emitted so far, are accepted -/
def InvN (pm : PfxMap) (s : PSt) : Prop := (∀ t ∈ s.toks, okTok pm t.tok) ∧ (∀ i ∈ s.out, okPI pm i)

def Keeps (pm : PfxMap) (r : P PSt) : Prop := ∀ s', r = .ok s' → InvN pm s'

variable {pm : PfxMap}

theorem inv_adv {s : PSt} (h : InvN pm s) : InvN pm (adv s) :=
  ⟨fun t ht => h.1 t (List.mem_of_mem_drop ht), h.2⟩

theorem inv_emit {s : PSt} (h : InvN pm s) (i : PI) (hi : okPI pm i) : InvN pm (emit s i) :=
  ⟨h.1, fun j hj => by
    rcases List.mem_cons.mp hj with rfl | hj
    · exact hi
    · exact h.2 j hj⟩

theorem inv_peek {s : PSt} (h : InvN pm s) {p l : List Rune} (hp : peekTok s = .nametest p l) : pfxOk pm p = true := by
  obtain ⟨lt, h1, h2⟩ := toks_of_peek hp nofun
  have := h.1 lt (by rw [h2]; exact List.mem_cons_self)
  rwa [h1] at this

theorem Keeps_ok {s : PSt} (h : InvN pm s) : Keeps pm (.ok s) := Lands.ret h

theorem PI.plain.okPI {i : PI} (h : i.plain) : okPI pm i := by
  unfold XP.okPI
  split
  · exact h.elim
  · trivial

theorem stable_names : Stable (InvN pm) where
  read h _ _ := inv_adv h
  skip _ h := inv_adv h
  put i h hi := inv_emit h i hi.okPI
  name h hp := inv_emit (inv_adv h) _ (inv_peek h hp)
  fail _ h := h

structure InvK (pm : PfxMap) (f : Nat) : Prop where
  level : ∀ lvl s, InvN pm s → Keeps pm (pLevel f lvl s)
  levelRest : ∀ lvl s, InvN pm s → Keeps pm (pLevelRest f lvl s)
  unary : ∀ s, InvN pm s → Keeps pm (pUnary f s)
  unionRest : ∀ s, InvN pm s → Keeps pm (pUnionRest f s)
  path : ∀ s, InvN pm s → Keeps pm (pPath f s)
  locPath : ∀ s, InvN pm s → Keeps pm (pLocationPath f s)
  filterPath : ∀ s, InvN pm s → Keeps pm (pFilterPath f s)
  primary : ∀ s, InvN pm s → Keeps pm (pPrimary f s)
  preds : ∀ s, InvN pm s → Keeps pm (pPreds f s)
  relPath : ∀ s, InvN pm s → Keeps pm (pRelPath f s)
  step : ∀ s, InvN pm s → Keeps pm (pStep f s)

theorem invK_all (f : Nat) : InvK pm f :=
  have w := walk_all f
  have hN := stable_names (pm := pm)
  ⟨fun lvl => (w.level lvl).lands hN, fun lvl => (w.levelRest lvl).lands hN, w.unary.lands hN, w.unionRest.lands hN,
    w.path.lands hN, w.locPath.lands hN, w.filterPath.lands hN, w.primary.lands hN, w.preds.lands hN,
    w.relPath.lands hN, w.step.lands hN⟩

theorem parseExprToks_names (strict : Bool) (toks : List LexedTok) (h : ∀ t ∈ toks, okTok pm t.tok)
    (s' : PSt) (hs : parseExprToks strict toks = .ok s') : ∀ i ∈ s'.out, okPI pm i := by
  obtain ⟨a, ha, _, rfl⟩ := (safe_parseExprToks stable_names strict toks ⟨h, fun _ hi => nomatch hi⟩).2 s' hs
  exact (inv_emit ha .store trivial).2

theorem parseLeafrefToks_names (toks : List LexedTok) (h : ∀ t ∈ toks, okTok pm t.tok)
    (s' : PSt) (hs : parseLeafrefToks toks = .ok s') : ∀ i ∈ s'.out, okPI pm i :=
  ((safe_parseLeafrefToks stable_names toks ⟨h, fun _ hi => nomatch hi⟩).2 s' hs).2

theorem okTok_fin (pfx loc : List Rune) (s : LexSt) :
    okTok pm (if pfxOk pm pfx then ((.nametest pfx loc, s) : Tok × LexSt) else (.err, { s with err := some "unknown prefix" })).1 := by
  split
  · rename_i h; exact h
  · trivial

theorem okTok_lexNameCommon (strict : Bool) (c : Rune) (s : LexSt) : okTok pm (lexNameCommon strict pm c s).1 := by
  have := lexNameCommon_tok strict pm c s
  unfold okTok
  split
  · rename_i heq; rw [heq] at this; exact this
  · trivial

/- the leaves of the two lexer functions are visited as in `lexNameCommon_tok` -/
theorem okTok_lexNameLeafref (strict : Bool) (c : Rune) (s : LexSt) : okTok pm (lexNameLeafref strict pm c s).1 := by
  unfold lexNameLeafref
  simp only [↓apply_ite fun r : Tok × LexSt => okTok pm r.1]
  simp only [okTok, ite_self, ite_then_self, implies_true]

theorem okTok_lexTok (strict : Bool) (g : Grammar) (c : Rune) (s : LexSt) : okTok pm (lexTok strict g pm c s).1 := by
  unfold lexTok
  extract_lets lexNum
  have hnum : ∀ c s, okTok pm (lexNum c s).1 := by
    intro c s
    dsimp only [lexNum]
    cases parseGoFloat (constructToken c isNumChar "NUM" s).1 <;>
      simp only [↓apply_ite fun r : Tok × LexSt => okTok pm r.1] <;> simp only [okTok, ite_self]
  clear_value lexNum
  simp only [↓apply_ite fun r : Tok × LexSt => okTok pm r.1, hnum, okTok_lexNameCommon, okTok_lexNameLeafref]
  simp only [okTok, ite_self, pfxOk_nil]

theorem okTok_mapTok (g : Grammar) (t : Tok) (h : okTok pm t) : okTok pm (mapTok g t) := by
  -- a token is kept, or becomes `.raw` or `.err`
  fun_cases mapTok g t
  all_goals first | exact h | trivial

theorem okTok_lexCommon (strict : Bool) (g : Grammar) (s : LexSt) : okTok pm (lexCommon strict g pm s).1 := by
  unfold lexCommon
  generalize lexCommon.skip (s.line.length + 2) s = cs
  exact okTok_lexTok strict g cs.1 cs.2

theorem okTok_lexAll (strict : Bool) (g : Grammar) (bs : List Nat) :
    ∀ lt ∈ (lexAll strict g pm bs).1, okTok pm lt.tok :=
  lexAllAux_all strict g pm (fun _ => True) (fun lt => okTok pm lt.tok)
    (fun s _ => ⟨trivial, okTok_mapTok g (lexCommon strict g pm s).1 (okTok_lexCommon strict g s)⟩) _ _ trivial

/-- **every name test of a compiled machine carries an accepted prefix** -/
theorem build_names (strict fixed : Bool) (g : Grammar) (bs : List Nat) (prog : List PI)
    (h : build strict fixed g pm bs = .machine prog) : ∀ i ∈ prog, okPI pm i := by
  obtain ⟨s, hs, _, rfl⟩ := build_machine strict fixed g pm bs prog h
  intro i hi
  have htoks := okTok_lexAll (pm := pm) strict g bs
  cases g
  case leafref => exact parseLeafrefToks_names _ htoks s hs i (List.mem_reverse.mp hi)
  all_goals exact parseExprToks_names strict _ htoks s hs i (List.mem_reverse.mp hi)

end YV.XP
