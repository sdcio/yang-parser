/-
  Proofs.YLex — the YANG lexer always finishes with an EOF or an Error item: no input can make the repaired
  state machine spin or run out of the fuel the model gives it (`lexItems_ends`, by the lexer's own case
  analysis).  Before that `lexItems` is given one equation per state of the lexer; Proofs.YLexR, which follows
  it lexeme by lexeme, rewrites with those.
-/
import YV.Model.YParse
namespace YV.Y

theorem lexItems_nil (fx : Bool) (f pos d : Nat) :
    lexItems fx (f + 1) [] pos d =
      some [if d > 0 then ⟨.error, pos, msg "unterminated statement block"⟩ else ⟨.eof, pos, []⟩] :=
  (apply_ite (fun x => some [x]) ..).symm

/-- in the two comment states the offsets are written as the model computes them (it counts from the second byte
    of the opener), so that the equations hold by computation -/
theorem lexItems_blockC (fx : Bool) (f : Nat) (r : Bytes) (pos d : Nat) :
    lexItems fx (f + 1) (47 :: 42 :: r) pos d =
      match find2 42 47 r with
      | none => some [⟨.error, pos, msg "unclosed comment"⟩]
      | some i => lexItems fx f (r.drop (1 + i + 1)) (pos + 2 + i + 2) d := rfl

theorem lexItems_lineC (fx : Bool) (f : Nat) (r : Bytes) (pos d : Nat) :
    lexItems fx (f + 1) (47 :: 47 :: r) pos d =
      match find1 10 r with
      | none => lexItems fx f [] (pos + 2 + r.length) d
      | some i => lexItems fx f (r.drop (1 + i)) (pos + 2 + i + 1) d := rfl

theorem lexItems_sep (fx : Bool) (f : Nat) {c : Nat} (r : Bytes) (pos d : Nat) (hc : isSep c = true) :
    lexItems fx (f + 1) (c :: r) pos d =
      (lexItems fx f (r.drop (r.takeWhile isSep).length) (pos + 1 + (r.takeWhile isSep).length) d).map
        (⟨.sep, pos, c :: r.takeWhile isSep⟩ :: ·) := by
  have h47 : c ≠ 47 := by rintro rfl; simp [isSep] at hc
  simp only [lexItems, h47, decide_false, Bool.false_and, Bool.false_eq_true, ↓reduceIte, hc]

theorem lexItems_quote (fx : Bool) (f : Nat) {c : Nat} (r : Bytes) (pos d : Nat) (hc : c = 34 ∨ c = 39) :
    lexItems fx (f + 1) (c :: r) pos d =
      match scanQuoted c (r.length + 1) r with
      | none => some [⟨.quote, pos, [c]⟩, ⟨.error, pos + 1, msg "unterminated quoted string"⟩]
      | some (s, rest) =>
        (lexItems fx f (rest.drop 1) (pos + 1 + s.length + 1) d).map
          ([⟨.quote, pos, [c]⟩, ⟨.string, pos + 1, s⟩, ⟨.quote, pos + 1 + s.length, [c]⟩] ++ ·) := by
  rcases hc with rfl | rfl <;> rfl

theorem lexItems_lbrace (fx : Bool) (f : Nat) (r : Bytes) (pos d : Nat) :
    lexItems fx (f + 1) (123 :: r) pos d = (lexItems fx f r (pos + 1) (d + 1)).map (⟨.lbrace, pos, [123]⟩ :: ·) := rfl

theorem lexItems_rbrace (fx : Bool) (f : Nat) (r : Bytes) (pos d : Nat) :
    lexItems fx (f + 1) (125 :: r) pos d =
      if d = 0 then some [⟨.rbrace, pos, [125]⟩, ⟨.error, pos + 1, msg "unexpected right bracket"⟩]
      else (lexItems fx f r (pos + 1) (d - 1)).map (⟨.rbrace, pos, [125]⟩ :: ·) := rfl

theorem lexItems_semi (fx : Bool) (f : Nat) (r : Bytes) (pos d : Nat) :
    lexItems fx (f + 1) (59 :: r) pos d = (lexItems fx f r (pos + 1) d).map (⟨.semi, pos, [59]⟩ :: ·) := rfl

theorem lexItems_plus (fx : Bool) (f : Nat) (r : Bytes) (pos d : Nat) :
    lexItems fx (f + 1) (43 :: r) pos d = (lexItems fx f r (pos + 1) d).map (⟨.plus, pos, [43]⟩ :: ·) := rfl

theorem lexItems_word (fx : Bool) (f : Nat) {c : Nat} (r : Bytes) (pos d : Nat) (ht : isTerminator c = false)
    (h43 : c ≠ 43) (h39 : c ≠ 39) (hcm : ¬ (c = 47 ∧ (r.head? = some 42 ∨ r.head? = some 47))) :
    lexItems fx (f + 1) (c :: r) pos d =
      let run := r.takeWhile (fun x => !isTerminator x)
      if (r.drop run.length).isEmpty && !fx then none
      else (lexItems fx f (r.drop run.length) (pos + (run.length + 1)) d).map (⟨.string, pos, c :: run⟩ :: ·) := by
  have hb : ∀ x, (x = 42 ∨ x = 47) → (decide (c = 47) && decide (r.head? = some x)) = false := by
    intro x hx
    rw [Bool.and_eq_false_iff]
    by_cases h : c = 47
    · exact .inr (by simpa using fun e => hcm ⟨h, by rcases hx with rfl | rfl <;> simp [e]⟩)
    · exact .inl (by simpa using h)
  have ht' := ht
  simp only [isTerminator, Bool.or_eq_false_iff, decide_eq_false_iff_not] at ht'
  obtain ⟨⟨⟨⟨hs, h59⟩, h123⟩, h34⟩, h125⟩ := ht'
  simp only [lexItems, hb 42 (.inl rfl), hb 47 (.inr rfl), Bool.false_eq_true, ↓reduceIte, hs, h34, h39, h123, h125, h59,
    h43, decide_false, Bool.or_self, List.takeWhile_cons, ht, Bool.not_false, List.length_cons, List.drop_succ_cons]

def Ends (l : List Item) : Prop := ∃ init last, l = init ++ [last] ∧ (last.typ = .eof ∨ last.typ = .error)

theorem ends_append {l : List Item} (p : List Item) (h : Ends l) : Ends (p ++ l) := by
  obtain ⟨i, x, rfl, hx⟩ := h
  exact ⟨p ++ i, x, by simp, hx⟩

theorem ends_single (a : Item) (h : a.typ = .eof ∨ a.typ = .error) : Ends [a] := ⟨[], a, rfl, h⟩

theorem ends_map {o : Option (List Item)} (em : List Item) (h : ∃ l, o = some l ∧ Ends l) :
    ∃ l, o.map (em ++ ·) = some l ∧ Ends l := by
  obtain ⟨l, rfl, h2⟩ := h
  exact ⟨em ++ l, rfl, ends_append em h2⟩

theorem scanQuoted_some {q f : Nat} {r s rest : Bytes} (h : scanQuoted q f r = some (s, rest)) :
    r = s ++ rest ∧ rest.head? = some q := by
  fun_induction scanQuoted q f r generalizing s with
  | case1 | case2 | case4 => simp at h
  | case6 => simp only [Option.some.injEq, Prod.mk.injEq] at h; simp [← h.1, ← h.2]
  | case3 _ _ _ ih | case5 _ _ _ _ ih | case7 _ _ _ _ _ ih =>
    -- one or two bytes join the content
    obtain ⟨⟨a, b⟩, ha, hb⟩ := Option.map_eq_some_iff.mp h
    simp only [Prod.mk.injEq] at hb
    obtain ⟨rfl, rfl⟩ := hb
    simpa using ih ha

/-- every state that goes on has taken the first byte, at least -/
theorem drop_fits {x : Nat} {r : Bytes} {f : Nat} (n : Nat) (hf : (x :: r).length < f + 1) : (r.drop n).length < f :=
  Nat.lt_of_le_of_lt (List.drop_sublist n r).length_le (Nat.lt_of_succ_lt_succ hf)

theorem lexItems_ends (f : Nat) (rest : Bytes) (pos depth : Nat) (hf : rest.length < f) :
    ∃ l, lexItems true f rest pos depth = some l ∧ Ends l := by
  have stop : ∀ (em : List Item) (pos' : Nat) (m : Bytes), ∃ l, some (em ++ [⟨.error, pos', m⟩]) = some l ∧ Ends l :=
    fun em pos' m => ⟨_, rfl, ends_append em (ends_single _ (.inr rfl))⟩
  -- the cases in the order of the lexer's text: 1 no fuel, 2-3 end of text, 4-7 comments, 8 blanks, 9-10 quoted string,
  -- 11-15 punctuation, 16-17 word.  Every state that goes on does so on a shorter text, after emitting some items.
  fun_induction lexItems true f rest pos depth with
  | case1 => exact absurd hf (Nat.not_lt_zero _)
  | case2 | case4 => exact stop [] _ _
  | case3 => exact ⟨_, rfl, ends_single _ (.inl rfl)⟩
  | case5 | case7 => rename_i ih; exact ih (drop_fits _ hf)
  | case6 => rename_i ih; exact ih (Nat.zero_lt_of_lt (Nat.lt_of_succ_lt_succ hf))
  | case8 => rename_i ih; exact ends_map [_] (ih (drop_fits _ hf))
  | case9 | case12 => exact stop [_] _ _
  | case10 =>
    rename_i s rest' hsc _ ih
    obtain ⟨rfl, _⟩ := scanQuoted_some hsc
    exact ends_map _ (ih (List.drop_length_add_append 1 ▸ drop_fits (s.length + 1) hf))
  | case11 | case13 | case14 | case15 => rename_i ih; exact ends_map [_] (ih (Nat.lt_of_succ_lt_succ hf))
  | case16 => rename_i h; simp at h
  | case17 =>
    rename_i x r _ _ hs hq h123 h125 h59 _ run rest' _ ih
    -- the word begins with `x`, which is no terminator
    have ht : isTerminator x = false := by simp at hq; simp [isTerminator, *]
    have hrun : run.length = (r.takeWhile fun x => !isTerminator x).length + 1 :=
      congrArg List.length (List.takeWhile_cons_of_pos (by rw [ht]; rfl))
    refine ends_map [_] (ih ?_)
    show (List.drop run.length (x :: r)).length < _
    rw [hrun]
    exact drop_fits (r := r) _ hf

/-- **the lexer goroutine always terminates its stream**: for every input the item list exists (no
    divergence) and ends with EOF or an Error item -/
theorem lex_total (input : Bytes) : ∃ l, lex true input = some l ∧ Ends l :=
  lexItems_ends (input.length + 2) input 0 0 (Nat.lt_add_of_pos_right Nat.two_pos)

end YV.Y
