/-
  Proofs.XReject — constructs of XPath 1.0 outside the supported subset are refused: if the must / when parser
  accepts a token list without recording an error, it has not read an axis name, an '@', a '//' or a node-type
  test.  The invariant "either an action has set parseErr, or every token consumed so far is a supported one" is
  an instance of `Stable`: an unsupported token is only ever read together with recording the error.
  `KeepsB orig` is `Lands (InvB orig)`, and `InvBK` is the walk of XWalk stated function by function in these
  terms; `parseExprToks_rejects` does not go through it.
-/
import YV.Proofs.XWalk
import YV.Proofs.XBuild
namespace YV.XP
open YV YV.X YV.XL

/-- unless parseErr is set, what has been consumed of `orig` contains no unsupported token -/
def InvB (orig : List LexedTok) (s : PSt) : Prop :=
  s.perr = none → ∃ pre, orig = pre ++ s.toks ∧ ∀ t ∈ pre, bad t.tok = false

def KeepsB (orig : List LexedTok) (r : P PSt) : Prop := ∀ s', r = .ok s' → InvB orig s'

variable {orig : List LexedTok}

theorem invB_adv {s : PSt} (h : InvB orig s) (hg : bad (peekTok s) = false) : InvB orig (adv s) := by
  intro hp
  obtain ⟨pre, h1, h2⟩ := h hp
  cases ht : s.toks with
  | nil => exact ⟨pre, by simpa [adv, ht] using h1, h2⟩
  | cons t r =>
    exact ⟨pre ++ [t], by simp [adv, ht, h1],
      List.forall_mem_append.2 ⟨h2, List.forall_mem_singleton.2 (by simpa [peekTok, ht] using hg)⟩⟩

theorem stable_reject : Stable (InvB orig) where
  read h hp hg := invB_adv h (hp ▸ hg)
  skip _ _ := nofun
  put _ h _ := h
  name h hp := invB_adv h (hp ▸ rfl)
  fail _ _ := nofun

structure InvBK (orig : List LexedTok) (f : Nat) : Prop where
  level : ∀ lvl s, InvB orig s → KeepsB orig (pLevel f lvl s)
  levelRest : ∀ lvl s, InvB orig s → KeepsB orig (pLevelRest f lvl s)
  unary : ∀ s, InvB orig s → KeepsB orig (pUnary f s)
  unionRest : ∀ s, InvB orig s → KeepsB orig (pUnionRest f s)
  path : ∀ s, InvB orig s → KeepsB orig (pPath f s)
  locPath : ∀ s, InvB orig s → KeepsB orig (pLocationPath f s)
  filterPath : ∀ s, InvB orig s → KeepsB orig (pFilterPath f s)
  primary : ∀ s, InvB orig s → KeepsB orig (pPrimary f s)
  preds : ∀ s, InvB orig s → KeepsB orig (pPreds f s)
  relPath : ∀ s, InvB orig s → KeepsB orig (pRelPath f s)
  step : ∀ s, InvB orig s → KeepsB orig (pStep f s)

theorem invBK_all (f : Nat) : InvBK orig f :=
  have w := walk_all f
  have hB := stable_reject (orig := orig)
  ⟨fun lvl => (w.level lvl).lands hB, fun lvl => (w.levelRest lvl).lands hB, w.unary.lands hB, w.unionRest.lands hB,
    w.path.lands hB, w.locPath.lands hB, w.filterPath.lands hB, w.primary.lands hB, w.preds.lands hB,
    w.relPath.lands hB, w.step.lands hB⟩

/-- **unsupported constructs are refused**: an accepted token list (no parse error, no error recorded by an action)
    contains no axis name, '@', '//' or node-type test before its end-of-input token -/
theorem parseExprToks_rejects (strict : Bool) (toks : List LexedTok) (s : PSt)
    (h : parseExprToks strict toks = .ok s) (hp : s.perr = none) :
    ∃ pre rest, toks = pre ++ rest ∧ (∀ t ∈ pre, bad t.tok = false) ∧ (rest.head?.map (·.tok)).getD .eof = .eof := by
  obtain ⟨a, ha, heof, rfl⟩ := (safe_parseExprToks stable_reject strict toks (fun _ => ⟨[], rfl, fun _ hx => nomatch hx⟩)).2 s h
  obtain ⟨pre, e1, e2⟩ := ha hp
  refine ⟨pre, a.toks, e1, e2, ?_⟩
  rw [peek_tk, tk] at heof
  revert heof
  cases a.toks <;> exact id

/-- the same at the level of `NewExprMachine`: if a machine is built for a must / when expression, the lexer has
    not delivered an unsupported token before the end of the text -/
theorem build_rejects (strict fixed : Bool) (g : Grammar) (hg : g ≠ .leafref) (pm : PfxMap) (bs : List Nat) (prog : List PI)
    (h : build strict fixed g pm bs = .machine prog) :
    ∃ pre rest, (lexAll strict g pm bs).1 = pre ++ rest ∧ (∀ t ∈ pre, bad t.tok = false) ∧
      (rest.head?.map (·.tok)).getD .eof = .eof := by
  obtain ⟨s, h1, h2, _⟩ := build_machine strict fixed g pm bs prog h
  cases g
  case leafref => exact absurd rfl hg
  all_goals exact parseExprToks_rejects strict _ s h1 h2

end YV.XP
