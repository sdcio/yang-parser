/-
  Proofs.XFuncs — function names: the must / when lexer hands out a function token only for a name of the function
  table (followed by an opening parenthesis), and a name followed by a parenthesis that is not registered is an error.
-/
import YV.Proofs.XLexBase
open YV YV.X YV.XL
namespace YV.XL

/-- what a token handed out by `lexNameCommon` says about the name it was made of (`name`, and the state `st`
    after the name): a function token comes out of the function table and stands before an opening parenthesis,
    a name test carries an accepted prefix -/
def NameTok (pm : PfxMap) (name : List Rune) (st : LexSt) : Tok → Prop
  | .func f => lookupFn name = some f ∧ nnwsIs [chr '('] st = true
  | .nametest p _ => pfxOk pm p = true
  | _ => True

/- `lexNameCommon` is a tree of `if`s with some twenty leaves `(token, state)`.  `split` and `fun_cases` on the
   whole of it are too slow to get through, so the leaves are visited by rewriting: the local functions are set
   aside with what is needed of them (`extract_lets`, `clear_value`), the predicate on the token is pushed to the
   leaves (`↓apply_ite fun r => NameTok .. r.1`: before the branches are looked at, so that each is visited once)
   and evaluated there.  The case taken first is the one the verdict on a function token depends on. -/
theorem lexNameCommon_tok (strict : Bool) (pm : PfxMap) (c : Rune) (s : LexSt) :
    NameTok pm (constructToken c nameCharCommon "NAME" s).1 (constructToken c nameCharCommon "NAME" s).2
      (lexNameCommon strict pm c s).1 := by
  unfold lexNameCommon
  generalize constructToken c nameCharCommon "NAME" s = ct
  obtain ⟨name, st⟩ := ct
  dsimp -zeta only
  extract_lets generic fin tight
  have hfin : ∀ p l s', NameTok pm name st (fin p l s').1 := by
    intro p l s'
    unfold fin
    split
    · assumption
    · trivial
  have hgen : nnwsIs [chr '('] st = true → NameTok pm name st generic.1 := by
    intro hp
    unfold generic
    cases hl : lookupFn name
    · trivial
    · exact ⟨hl, hp⟩
  clear_value generic fin tight
  by_cases hp : nnwsIs [chr '('] st = true
  · rw [if_pos hp]
    simp only [↓apply_ite fun r : Tok × LexSt => NameTok pm name st r.1, hgen hp]
    simp only [NameTok, ite_self]
  · rw [if_neg hp]
    simp only [↓apply_ite fun r : Tok × LexSt => NameTok pm name st r.1, hfin]
    simp only [NameTok, ite_self]

/-- every function token comes out of the function table: the name the lexer collected is registered under that
    function, and an opening parenthesis follows it -/
theorem func_token_from_table (strict : Bool) (pm : PfxMap) (c : Rune) (s s' : LexSt) (f : Fn)
    (h : lexNameCommon strict pm c s = (.func f, s')) :
    lookupFn (constructToken c nameCharCommon "NAME" s).1 = some f ∧
      nnwsIs [chr '('] (constructToken c nameCharCommon "NAME" s).2 = true := by
  have := lexNameCommon_tok strict pm c s
  rw [h] at this
  exact this

/-- a name followed by '(' that is not registered (and is neither current, deref nor a node type) is a lexer error:
    near-miss spellings of function names are not functions -/
theorem unknown_function_is_error (strict : Bool) (pm : PfxMap) (c : Rune) (s : LexSt)
    (hop : canBeOperator (constructToken c nameCharCommon "NAME" s).2.prec = false)
    (hpar : nnwsIs [chr '('] (constructToken c nameCharCommon "NAME" s).2 = true)
    (hno : lookupFn (constructToken c nameCharCommon "NAME" s).1 = none)
    (hc : (constructToken c nameCharCommon "NAME" s).1 ≠ strR "current")
    (hd : (constructToken c nameCharCommon "NAME" s).1 ≠ strR "deref")
    (hn : isNodeType (constructToken c nameCharCommon "NAME" s).1 = false) :
    (lexNameCommon strict pm c s).1 = .err := by
  unfold lexNameCommon
  generalize constructToken c nameCharCommon "NAME" s = ct at *
  obtain ⟨name, st⟩ := ct
  dsimp -zeta only at *
  rw [if_neg (ne_true_of_eq_false hop), if_pos hpar]
  simp only [hno, hc, hd, hn, if_false, Bool.false_eq_true, ite_self]

end YV.XL
