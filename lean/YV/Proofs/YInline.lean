/-
  Proofs.YInline — the expansion of uses / refine / augment, written out as source, is a module without any
  uses that compiles to the same definitions.

  `expandKids` yields plain definitions (`A`: no uses, no augment).  Written back as source text (`embedAll`)
  they are "the module in which the grouping bodies and augmenting nodes are written in place with the
  refinements applied"; compiling that module — whatever groupings are in scope — gives the same definitions
  again.  Two facts carry it: every node the expansion produces, at every depth, belongs to the module it is
  expanded in (`expandKids_deep`, Proofs.YUses), and a body without uses expands to itself with that module
  stamped on every node (`expand_embedAll`; for a single definition `expand_embed`).
-/
import YV.Proofs.YUses
namespace YV.C
open YV YV.Y YV.SC

mutual
/-- write module `ns` on the node and on everything below it -/
def stamp (ns : Tok) : A → A
  | .container n m p ks => .container n { m with ns := ns } p (stampAll ns ks)
  | .list n m k a b ks => .list n { m with ns := ns } k a b (stampAll ns ks)
  | .leaf n m md d => .leaf n { m with ns := ns } md d
  | .leafList n m a b => .leafList n { m with ns := ns } a b
  | .choice n m md d cs => .choice n { m with ns := ns } md d (stampAll ns cs)
  | .case n m ks => .case n { m with ns := ns } (stampAll ns ks)
def stampAll (ns : Tok) : List A → List A
  | [] => []
  | a :: r => stamp ns a :: stampAll ns r
end

mutual
/-- fuel that suffices to expand the definition written as source: `expandOne` / `expandKids` spend one unit per
    call, the call on the empty list included (hence `szAll [] = 1` and the `1 + …` at every node and sibling) -/
def sz : A → Nat
  | .container _ _ _ ks => 1 + szAll ks
  | .list _ _ _ _ _ ks => 1 + szAll ks
  | .leaf .. => 1
  | .leafList .. => 1
  | .choice _ _ _ _ cs => 1 + szAll cs
  | .case _ _ ks => 1 + szAll ks
def szAll : List A → Nat
  | [] => 1
  | a :: r => 1 + sz a + szAll r
end

theorem szAll_pos : ∀ l : List A, 1 ≤ szAll l
  | [] => by simp [szAll]
  | _ :: _ => by simp only [szAll]; omega

theorem szAll_kids_le (a : A) : szAll a.kids ≤ sz a := by
  cases a <;> simp [sz, szAll, A.kids]

theorem stamp_eq (ns : Tok) (a : A) :
    stamp ns a = (a.setMeta { a.meta with ns := ns }).setKids (stampAll ns a.kids) := by
  cases a <;> rfl

theorem stamp_deep_both (ns : Tok) :
    (∀ a, deepNs ns a = true → stamp ns a = a) ∧ (∀ l, deepAll ns l = true → stampAll ns l = l) := by
  refine A.induct₂ ?_ (fun _ => rfl) ?_
  · intro a ih h
    obtain ⟨hm, hk⟩ := (deep_split ns a).1 h
    rw [stamp_eq, ih hk, ← hm]
    exact (congrArg (A.setKids a.kids) (setMeta_meta a)).trans (setKids_kids a)
  · intro a r ha hr h
    rw [deepAll_cons] at h
    rw [stampAll, ha h.1, hr h.2]

theorem stamp_deep (ns : Tok) : ∀ a : A, deepNs ns a = true → stamp ns a = a := (stamp_deep_both ns).1

theorem stampAll_deep (ns : Tok) : ∀ l : List A, deepAll ns l = true → stampAll ns l = l := (stamp_deep_both ns).2

theorem expandOne_embed (env : GEnv) (ns : Tok) (fuel : Nat) (a : A) :
    expandOne env ns (fuel + 2) (embed a) =
      (expandKids env ns (fuel + 1) (embed.embedAll a.kids)).map fun ks =>
        [(a.setMeta { a.meta with ns := ns }).setKids ks] := by
  cases a with
  | leaf | leafList => rfl
  | _ => simp only [embed, expandOne, A.kids]; cases expandKids env ns (fuel + 1) _ <;> rfl

theorem expand_embed_both (env : GEnv) (ns : Tok) :
    (∀ a fuel, sz a < fuel → expandOne env ns fuel (embed a) = .ok [stamp ns a]) ∧
    (∀ l fuel, szAll l ≤ fuel → expandKids env ns fuel (embed.embedAll l) = .ok (stampAll ns l)) := by
  refine A.induct₂ ?_ ?_ ?_
  · intro a ih fuel hf
    have h1 := szAll_pos a.kids
    have h2 := szAll_kids_le a
    obtain ⟨f, rfl⟩ : ∃ f, fuel = f + 2 := ⟨fuel - 2, by omega⟩
    rw [expandOne_embed, ih (f + 1) (by omega), stamp_eq]; rfl
  · intro fuel hf
    cases fuel with
    | zero => simp [szAll] at hf
    | succ f => rfl
  · intro a r ha hr fuel hf
    have := szAll_pos r
    cases fuel with
    | zero => simp [szAll] at hf
    | succ f =>
      simp only [szAll] at hf
      simp only [embed.embedAll, expandKids, ha f (by omega), hr f (by omega), ebind_ok, epure, stampAll,
        List.singleton_append]

theorem expand_embed (env : GEnv) (ns : Tok) : ∀ (a : A) (fuel : Nat), sz a < fuel →
    expandOne env ns fuel (embed a) = .ok [stamp ns a] := (expand_embed_both env ns).1

theorem expand_embedAll (env : GEnv) (ns : Tok) : ∀ (l : List A) (fuel : Nat), szAll l ≤ fuel →
    expandKids env ns fuel (embed.embedAll l) = .ok (stampAll ns l) := (expand_embed_both env ns).2

theorem expand_fixed_point (env env' : GEnv) (ns : Tok) (fuel : Nat) (gs : List G) (r : List A)
    (h : expandKids env ns fuel gs = .ok r) (fuel' : Nat) (hf : szAll r ≤ fuel') :
    expandKids env' ns fuel' (embed.embedAll r) = .ok r := by
  rw [expand_embedAll env' ns r fuel' hf, stampAll_deep ns r (expandKids_deep env ns fuel gs r h)]

end YV.C
