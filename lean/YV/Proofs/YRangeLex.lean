/-
  Proofs.YRangeLex — the range / length argument check of the model (parse/arg.go: split at "|", split at "..",
  trim optsep off every boundary) accepts exactly the texts the ABNF scanner of Spec.YRange accepts — apart from
  which side of ".." a keyword may stand on, which the scanner leaves open.  Both sides are compared with one
  description of a part (`PartD`: optsep, boundary, optsep, optionally ".." and the same again) over an abstract
  boundary scanner with its tokens (`Scanner`), which the range and the length boundaries instantiate.
-/
import YV.Model.YCheck
import YV.Spec.YRange
import YV.Proofs.Lists
namespace YV.YC
open YV YV.Y

def boundaryLex (numOK : Bytes → Bool) (a : Bytes) : Bool := a = msg "min" || a = msg "max" || numOK a

/-- one or two boundaries that `Tok` accepts -/
def partLex (Tok : Bytes → Bool) (part : Bytes) : Bool :=
  match boundariesOf part with
  | [a] => Tok a
  | [a, b] => Tok a && Tok b
  | _ => false

/-- the model's check without the sides of the keywords -/
def rangeLikeLex (numOK : Bytes → Bool) (s : Bytes) : Bool :=
  (splitOnByte 124 s).all (partLex (boundaryLex numOK))

/-- `min` only before "..", `max` only after it -/
def sidesOK (s : Bytes) : Bool :=
  (splitOnByte 124 s).all fun part =>
    match boundariesOf part with
    | [a, b] => a ≠ msg "max" && b ≠ msg "min"
    | _ => true

theorem msg_min : msg "min" = [109, 105, 110] := by decide +kernel
theorem msg_max : msg "max" = [109, 97, 120] := by decide +kernel
theorem numBoundaryOK_min : numBoundaryOK (msg "min") = false := by rw [msg_min]; decide
theorem numBoundaryOK_max : numBoundaryOK (msg "max") = false := by rw [msg_max]; decide

/-- the model is the lexical rule plus the sides of the keywords -/
theorem rangeLikeOK_eq (numOK : Bytes → Bool) (hmin : numOK (msg "min") = false) (hmax : numOK (msg "max") = false)
    (s : Bytes) : rangeLikeOK numOK s = (rangeLikeLex numOK s && sidesOK s) := by
  unfold rangeLikeOK rangeLikeLex sidesOK
  rw [← all_and]
  refine List.all_congr rfl fun part => ?_
  unfold partLex
  generalize boundariesOf part = l
  match l with
  | [] => rfl
  | [a] => exact (Bool.and_true _).symm
  | [a, b] =>
    -- a keyword on its wrong side fails the model's test as well: it is not the other keyword, and no number
    have hne : msg "max" ≠ msg "min" := by rw [msg_max, msg_min]; decide
    simp only [boundaryLex]
    by_cases ha : a = msg "max"
    · simp [ha, hmax, hne]
    · by_cases hb : b = msg "min"
      · simp [hb, hmin, hne.symm]
      · simp [ha, hb]
  | _ :: _ :: _ :: _ => rfl

/-- `List.modifyHead (pre ++ ·)` -/
def consHead (pre : Bytes) : List Bytes → List Bytes
  | hd :: tl => (pre ++ hd) :: tl
  | [] => []

theorem consHead_cons (pre hd : Bytes) (tl : List Bytes) : consHead pre (hd :: tl) = (pre ++ hd) :: tl := rfl

theorem consHead_nil (l : List Bytes) : consHead [] l = l := by cases l <;> rfl

theorem consHead_append (a b : Bytes) (l : List Bytes) : consHead (a ++ b) l = consHead a (consHead b l) := by
  cases l <;> simp [consHead]

theorem splitOnByte_eq (sep : Nat) (s : Bytes) : splitOnByte sep s = s.splitOn sep :=
  splitLoop_eq sep (splitOnByte.go sep) (fun _ _ => rfl) (fun _ _ _ _ => rfl) s [] []

/-- `splitDotDot` by structural recursion -/
def sdd : Bytes → List Bytes
  | [] => [[]]
  | 46 :: 46 :: r => [] :: sdd r
  | c :: r => consHead [c] (sdd r)

theorem splitDotDot_go_eq (s : Bytes) : ∀ cur acc,
    splitDotDot.go cur acc s = acc.reverse ++ consHead cur.reverse (sdd s) := by
  fun_induction sdd s with
  | case1 => intro cur acc; simp [splitDotDot.go, consHead]
  | case2 r ih => intro cur acc; simp [splitDotDot.go, ih, consHead_cons, consHead_nil]
  | case3 c r hne ih =>
    intro cur acc
    rw [splitDotDot.go]
    · rw [ih]; simp [consHead_append]
    · exact hne

theorem splitDotDot_eq (s : Bytes) : splitDotDot s = sdd s := by
  unfold splitDotDot
  rw [splitDotDot_go_eq]
  simp [consHead_nil]

theorem sdd_nil : sdd [] = [[]] := rfl
theorem sdd_dd (r : Bytes) : sdd (46 :: 46 :: r) = [] :: sdd r := rfl
theorem sdd_cons' (c : Nat) (r : Bytes) (h : ∀ r', c = 46 → ¬ r = 46 :: r') : sdd (c :: r) = consHead [c] (sdd r) := by
  rw [sdd]; exact h
theorem sdd_cons_ne (c : Nat) (r : Bytes) (h : c ≠ 46) : sdd (c :: r) = consHead [c] (sdd r) :=
  sdd_cons' c r fun _ h' => absurd h' h
theorem sdd_dot_ne (d : Nat) (r : Bytes) (h : d ≠ 46) : sdd (46 :: d :: r) = consHead [46] (sdd (d :: r)) :=
  sdd_cons' 46 _ fun _ _ h' => h (List.cons.inj h').1
theorem sdd_dot : sdd [46] = [[46]] := sdd_cons' 46 [] fun _ _ => nofun

theorem sdd_ne_nil (q : Bytes) : sdd q ≠ [] := by
  fun_induction sdd q with
  | case1 => exact List.cons_ne_nil _ _
  | case2 r ih => exact List.cons_ne_nil _ _
  | case3 c r hne ih =>
    cases h : sdd r with
    | nil => exact absurd h ih
    | cons a l => exact List.cons_ne_nil _ _

/-- no ".." in the text, and no "." at its end that could pair with one after it -/
def noDD : Bytes → Bool
  | [] => true
  | c :: r => if c = 46 then (match r with | [] => false | d :: _ => d ≠ 46 && noDD r) else noDD r

theorem noDD_cons_ne (c : Nat) (r : Bytes) (h : c ≠ 46) : noDD (c :: r) = noDD r := by
  rw [noDD.eq_def]; exact if_neg h
theorem noDD_dot : noDD [46] = false := rfl
theorem noDD_dot_cons (d : Nat) (r : Bytes) : noDD (46 :: d :: r) = (decide (d ≠ 46) && noDD (d :: r)) := rfl

theorem noDD_no46 (x : Bytes) (h : ∀ c ∈ x, c ≠ 46) : noDD x = true := by
  induction x with
  | nil => rfl
  | cons c r ih =>
    rw [noDD_cons_ne c r (h c List.mem_cons_self)]
    exact ih fun x hx => h x (List.mem_cons_of_mem _ hx)

theorem noDD_append (x y : Bytes) (hx : noDD x = true) (hy : noDD y = true) : noDD (x ++ y) = true := by
  fun_induction noDD x with
  | case1 => exact hy
  | case2 => cases hx
  | case3 d r ih =>
    rw [Bool.and_eq_true] at hx
    rw [List.cons_append, List.cons_append, noDD_dot_cons, hx.1, ← List.cons_append, ih hx.2]
    rfl
  | case4 c r hc ih => rw [List.cons_append, noDD_cons_ne _ _ hc]; exact ih hx

/-- a text without ".." that does not end in "." stays in one piece, whatever follows -/
theorem sdd_noDD_pre (x t : Bytes) (hx : noDD x = true) : sdd (x ++ t) = consHead x (sdd t) := by
  fun_induction noDD x with
  | case1 => exact (consHead_nil _).symm
  | case2 => cases hx
  | case3 d r ih =>
    rw [Bool.and_eq_true, decide_eq_true_eq] at hx
    rw [List.cons_append, List.cons_append, sdd_dot_ne _ _ hx.1, ← List.cons_append, ih hx.2, ← consHead_append]
    rfl
  | case4 c r hc ih => rw [List.cons_append, sdd_cons_ne _ _ hc, ih hx, ← consHead_append]; rfl

theorem sdd_noDD_append (x y : Bytes) (hx : noDD x = true) : sdd (x ++ 46 :: 46 :: y) = x :: sdd y := by
  rw [sdd_noDD_pre x _ hx, sdd_dd, consHead_cons, List.append_nil]

theorem sdd_noDD (x : Bytes) (hx : noDD x = true) : sdd x = [x] := by
  have := sdd_noDD_pre x [] hx
  rwa [List.append_nil, sdd_nil, consHead_cons, List.append_nil] at this

theorem sdd_cases (q : Bytes) : sdd q = [q] ∨ ∃ x y, q = x ++ 46 :: 46 :: y ∧ sdd q = x :: sdd y := by
  fun_induction sdd q with
  | case1 => left; rfl
  | case2 r ih => right; exact ⟨[], r, rfl, rfl⟩
  | case3 c r hne ih =>
    rcases ih with h | ⟨x, y, h1, h2⟩
    · left; rw [h]; rfl
    · right; refine ⟨c :: x, y, by rw [h1]; rfl, ?_⟩
      rw [h2]; rfl

theorem sdd_one (q x : Bytes) (h : sdd q = [x]) : q = x := by
  rcases sdd_cases q with h1 | ⟨x', y, _, h2⟩
  · cases h1.symm.trans h; rfl
  · exact absurd (List.cons.inj (h2.symm.trans h)).2 (sdd_ne_nil y)

theorem sdd_two (q x y : Bytes) (h : sdd q = [x, y]) : q = x ++ 46 :: 46 :: y := by
  rcases sdd_cases q with h1 | ⟨x', y', hq, h2⟩
  · cases h1.symm.trans h
  · obtain ⟨rfl, h3⟩ := List.cons.inj (h2.symm.trans h)
    rw [hq, sdd_one y' y h3]

/-- an optsep text: blanks, tabs, LF, CRLF -/
inductive WS : Bytes → Prop
  | nil : WS []
  | sp {w : Bytes} : WS w → WS (32 :: w)
  | tab {w : Bytes} : WS w → WS (9 :: w)
  | lf {w : Bytes} : WS w → WS (10 :: w)
  | crlf {w : Bytes} : WS w → WS (13 :: 10 :: w)

theorem WS_append {a b : Bytes} (ha : WS a) (hb : WS b) : WS (a ++ b) := by
  induction ha with
  | nil => exact hb
  | sp _ ih => exact WS.sp ih
  | tab _ ih => exact WS.tab ih
  | lf _ ih => exact WS.lf ih
  | crlf _ ih => exact WS.crlf ih

theorem WS.one {c : Nat} {w : Bytes} (hc : isOptB c = true) (h : WS w) : WS (c :: w) := by
  simp only [isOptB, Bool.or_eq_true, decide_eq_true_eq] at hc
  rcases hc with (rfl | rfl) | rfl
  · exact .sp h
  · exact .tab h
  · exact .lf h

theorem WS_le {w : Bytes} (h : WS w) : ∀ c ∈ w, c ≤ 32 := by
  induction h with
  | nil => exact fun _ h => nomatch h
  | sp _ ih | tab _ ih | lf _ ih => exact List.forall_mem_cons.2 ⟨by decide, ih⟩
  | crlf _ ih => exact List.forall_mem_cons.2 ⟨by decide, List.forall_mem_cons.2 ⟨by decide, ih⟩⟩

section optsep
open YV.YS

theorem skipOpt_decomp (s : Bytes) : ∃ w, WS w ∧ s = w ++ skipOpt s := by
  fun_induction skipOpt s with
  | case1 r ih => obtain ⟨w, h1, h2⟩ := ih; exact ⟨32 :: w, .sp h1, congrArg (32 :: ·) h2⟩
  | case2 r ih => obtain ⟨w, h1, h2⟩ := ih; exact ⟨9 :: w, .tab h1, congrArg (9 :: ·) h2⟩
  | case3 r ih => obtain ⟨w, h1, h2⟩ := ih; exact ⟨10 :: w, .lf h1, congrArg (10 :: ·) h2⟩
  | case4 r ih => obtain ⟨w, h1, h2⟩ := ih; exact ⟨13 :: 10 :: w, .crlf h1, congrArg (13 :: 10 :: ·) h2⟩
  | case5 s h1 h2 h3 h4 => exact ⟨[], .nil, rfl⟩

theorem skipOpt_ws {w : Bytes} (h : WS w) (t : Bytes) : skipOpt (w ++ t) = skipOpt t := by
  induction h with
  | nil => rfl
  | sp _ ih | tab _ ih | lf _ ih | crlf _ ih => exact ih

theorem skipOpt_nil : skipOpt [] = [] := rfl

theorem skipOpt_stop (c : Nat) (r : Bytes) (h : 32 < c) : skipOpt (c :: r) = c :: r := by
  -- what is skipped is optsep, which `c` cannot begin
  obtain ⟨w, hw, e⟩ := skipOpt_decomp (c :: r)
  cases w with
  | nil => exact e.symm
  | cons d w => exact absurd (WS_le hw d List.mem_cons_self) (Nat.not_le_of_lt ((List.cons.inj e).1 ▸ h))

end optsep

theorem crlfToLf_nil : crlfToLf [] = [] := rfl
theorem crlfToLf_crlf (r : Bytes) : crlfToLf (13 :: 10 :: r) = 10 :: crlfToLf r := rfl
theorem crlfToLf_cons' (c : Nat) (r : Bytes) (h : ∀ r', c = 13 → ¬ r = 10 :: r') : crlfToLf (c :: r) = c :: crlfToLf r := by
  rw [crlfToLf]; exact h
theorem crlfToLf_cons (c : Nat) (r : Bytes) (h : c ≠ 13) : crlfToLf (c :: r) = c :: crlfToLf r :=
  crlfToLf_cons' c r (fun _ h' => absurd h' h)

theorem crlfToLf_ws {w : Bytes} (h : WS w) :
    (∀ c ∈ crlfToLf w, isOptB c = true) ∧ ∀ t, crlfToLf (w ++ t) = crlfToLf w ++ crlfToLf t := by
  induction h with
  | nil => exact ⟨fun _ h => (nomatch h), fun _ => rfl⟩
  | sp _ ih | tab _ ih | lf _ ih | crlf _ ih =>
    exact ⟨List.forall_mem_cons.2 ⟨rfl, ih.1⟩, fun t => congrArg (_ :: ·) (ih.2 t)⟩

theorem crlfToLf_tok (a t : Bytes) (h : ∀ c ∈ a, c ≠ 13) : crlfToLf (a ++ t) = a ++ crlfToLf t := by
  induction a with
  | nil => rfl
  | cons c r ih =>
    rw [List.cons_append, crlfToLf_cons _ _ (h c List.mem_cons_self), ih fun x hx => h x (List.mem_cons_of_mem _ hx)]
    rfl

theorem crlfToLf_eq_nil (s : Bytes) (h : crlfToLf s = []) : s = [] := by
  fun_cases crlfToLf s with
  | case1 r => rw [crlfToLf_crlf] at h; cases h
  | case2 d r hne => rw [crlfToLf_cons' d r hne] at h; cases h
  | case3 => rfl

/-- a byte of the result comes from the same byte of the text, or (a line feed) from a CRLF -/
theorem crlfToLf_inv_cons (s t' : Bytes) (c : Nat) (h : crlfToLf s = c :: t') :
    ∃ s', (s = c :: s' ∨ c = 10 ∧ s = 13 :: 10 :: s') ∧ crlfToLf s' = t' := by
  fun_cases crlfToLf s with
  | case1 r => rw [crlfToLf_crlf] at h; cases h; exact ⟨r, Or.inr ⟨rfl, rfl⟩, rfl⟩
  | case2 d r hne => rw [crlfToLf_cons' d r hne] at h; cases h; exact ⟨r, Or.inl rfl, rfl⟩
  | case3 => rw [crlfToLf_nil] at h; cases h

theorem crlfToLf_inv_tok (a : Bytes) : ∀ (s t' : Bytes), crlfToLf s = a ++ t' → (∀ c ∈ a, c ≠ 10) →
    ∃ s', s = a ++ s' ∧ crlfToLf s' = t' := by
  induction a with
  | nil => intro s t' h _; exact ⟨s, rfl, h⟩
  | cons c r ih =>
    intro s t' h ha
    obtain ⟨s1, h1 | ⟨h10, _⟩, h2⟩ := crlfToLf_inv_cons s (r ++ t') c h
    · obtain ⟨s2, h3, h4⟩ := ih s1 t' h2 fun x hx => ha x (List.mem_cons_of_mem _ hx)
      exact ⟨s2, by rw [h1, h3]; rfl, h4⟩
    · exact absurd h10 (ha c List.mem_cons_self)

theorem crlfToLf_inv_ws (w' : Bytes) : ∀ (s t' : Bytes), crlfToLf s = w' ++ t' → (∀ c ∈ w', isOptB c = true) →
    ∃ w s', WS w ∧ s = w ++ s' ∧ crlfToLf s' = t' := by
  induction w' with
  | nil => intro s t' h _; exact ⟨[], s, WS.nil, rfl, h⟩
  | cons c r ih =>
    intro s t' h hw
    obtain ⟨s1, h1, h2⟩ := crlfToLf_inv_cons s (r ++ t') c h
    obtain ⟨w, s2, h3, h4, h5⟩ := ih s1 t' h2 fun x hx => hw x (List.mem_cons_of_mem _ hx)
    rcases h1 with h1 | ⟨_, h1⟩
    · exact ⟨c :: w, s2, WS.one (hw c List.mem_cons_self) h3, by rw [h1, h4]; rfl, h5⟩
    · exact ⟨13 :: 10 :: w, s2, WS.crlf h3, by rw [h1, h4]; rfl, h5⟩

theorem trimOpt_decomp (x : Bytes) :
    ∃ w1 w2, (∀ c ∈ w1, isOptB c = true) ∧ (∀ c ∈ w2, isOptB c = true) ∧ x = w1 ++ (trimOpt x ++ w2) := by
  refine ⟨x.takeWhile isOptB, (((x.dropWhile isOptB).reverse).takeWhile isOptB).reverse,
    List.all_eq_true.1 List.all_takeWhile, ?_, ?_⟩
  · intro c hc; rw [List.mem_reverse] at hc; exact List.all_eq_true.1 List.all_takeWhile c hc
  · unfold trimOpt
    rw [← List.reverse_append, List.takeWhile_append_dropWhile, List.reverse_reverse,
      List.takeWhile_append_dropWhile]

theorem trimOpt_tok (w1 a w2 : Bytes) (h1 : ∀ c ∈ w1, isOptB c = true) (h2 : ∀ c ∈ w2, isOptB c = true)
    (hne : a ≠ []) (ha : ∀ c ∈ a, isOptB c = false) : trimOpt (w1 ++ (a ++ w2)) = a := by
  -- the trim from the left stops at the first byte of `a`, the trim of the reversed rest at the last one
  unfold trimOpt
  rw [(takeWhile_append_stop h1 ?_).2, List.reverse_append,
    (takeWhile_append_stop (fun c hc => h2 c (List.mem_reverse.1 hc)) ?_).2, List.reverse_reverse]
  · intro d r h; exact ha d (List.mem_reverse.1 (h ▸ List.mem_cons_self))
  · intro c r h
    cases a with
    | nil => exact absurd rfl hne
    | cons c' r' => cases h; exact ha c List.mem_cons_self

theorem isOptB_le {c : Nat} (h : isOptB c = true) : c ≤ 32 := by
  simp only [isOptB, Bool.or_eq_true, decide_eq_true_eq] at h
  rcases h with (rfl | rfl) | rfl <;> decide

structure TokShape (a : Bytes) : Prop where
  ne : a ≠ []
  /-- from "-" to "x", where the digits, ".", and the letters of `min` / `max` lie: more than a boundary is made of,
      but no byte of optsep (all ≤ 32) and no "|" (124), and that is all the proofs ask of the bytes of a boundary -/
  chars : ∀ c ∈ a, 45 ≤ c ∧ c ≤ 120
  nodd : noDD a = true

theorem TokShape.gt {a : Bytes} (h : TokShape a) {c : Nat} (hc : c ∈ a) : 32 < c :=
  Nat.lt_of_lt_of_le (by decide) (h.chars c hc).1

/-- what may follow a boundary so that the scanner takes exactly the boundary: no digit, and no "." digit, which
    `scanNumber` would look ahead at and take for a fraction -/
def Stop (t : Bytes) : Prop :=
  (∀ c r, t = c :: r → isDig c = false) ∧ (∀ d r, t = 46 :: d :: r → isDig d = false)

theorem Stop_nil : Stop [] := ⟨nofun, nofun⟩
theorem Stop_cons (c : Nat) (r : Bytes) (h1 : isDig c = false) (h2 : c ≠ 46) : Stop (c :: r) :=
  ⟨fun _ _ h => by cases h; exact h1, fun _ _ h => by cases h; exact absurd rfl h2⟩
theorem Stop_bar (r : Bytes) : Stop (124 :: r) := Stop_cons _ _ (by decide) (by decide)
theorem Stop_dd (r : Bytes) : Stop (46 :: 46 :: r) :=
  ⟨fun _ _ h => by cases h; decide, fun _ _ h => by cases h; decide⟩
theorem Stop_ws {w : Bytes} (h : WS w) (t : Bytes) (ht : Stop t) : Stop (w ++ t) := by
  cases h with
  | nil => exact ht
  | sp _ | tab _ | lf _ | crlf _ => exact Stop_cons _ _ (by decide) (by decide)

/-- a boundary scanner `B` (the rest of the text, if a boundary stands at its head) and the boundaries `Tok` it takes -/
structure Scanner (B : Bytes → Option Bytes) (Tok : Bytes → Bool) : Prop where
  /-- a token followed by something it cannot go on with is taken, exactly -/
  fwd : ∀ a t, Tok a = true → Stop t → B (a ++ t) = some t
  /-- what is taken is a token -/
  bwd : ∀ s r, B s = some r → ∃ a, s = a ++ r ∧ Tok a = true
  shape : ∀ a, Tok a = true → TokShape a

/-- a boundary with optsep around it -/
def BdD (Tok : Bytes → Bool) (x : Bytes) : Prop :=
  ∃ w1 a w2, WS w1 ∧ WS w2 ∧ Tok a = true ∧ x = w1 ++ (a ++ w2)

/-- a part: one boundary, or two with ".." between them -/
def PartD (Tok : Bytes → Bool) (part : Bytes) : Prop :=
  BdD Tok part ∨ ∃ x y, BdD Tok x ∧ BdD Tok y ∧ part = x ++ 46 :: 46 :: y

/-- what the scanner of parts looks for after a part -/
def Tail (t : Bytes) : Prop := t = [] ∨ ∃ r, t = 124 :: r

theorem Tail_nil : Tail [] := Or.inl rfl
theorem Tail_bar (r : Bytes) : Tail (124 :: r) := Or.inr ⟨r, rfl⟩

theorem Tail_ne_dd {t : Bytes} (h : Tail t) (r : Bytes) : t ≠ 46 :: 46 :: r := by
  rcases h with rfl | ⟨_, rfl⟩ <;> exact fun e => nomatch e

theorem Tail_stop {t : Bytes} (h : Tail t) : Stop t := by
  rcases h with rfl | ⟨r, rfl⟩
  · exact Stop_nil
  · exact Stop_bar r

section generic
open YV.YS

theorem Tail_skip {t : Bytes} (h : Tail t) : skipOpt t = t := by
  rcases h with rfl | ⟨r, rfl⟩
  · exact skipOpt_nil
  · exact skipOpt_stop _ _ (by decide)

theorem scanPart_eq_some (B : Bytes → Option Bytes) (s r : Bytes) :
    scanPart B s = some r ↔ ∃ r1, B s = some r1 ∧
      ((∃ r2, skipOpt r1 = 46 :: 46 :: r2 ∧ B (skipOpt r2) = some r) ∨ ((∀ r2, skipOpt r1 ≠ 46 :: 46 :: r2) ∧ r1 = r)) := by
  unfold scanPart
  cases B s with
  | none => exact ⟨fun h => (nomatch h), fun ⟨_, h, _⟩ => (nomatch h)⟩
  | some r1 =>
    simp only [Option.some.injEq, exists_eq_left']
    split
    · rename_i r2 h2
      simp [h2]
    · rename_i hn
      exact ⟨fun h => .inr ⟨hn, Option.some.inj h⟩,
        fun h => h.elim (fun ⟨r2, h2, _⟩ => absurd h2 (hn r2)) fun h => congrArg some h.2⟩

variable {B : Bytes → Option Bytes} {Tok : Bytes → Bool} (hS : Scanner B Tok)
include hS

theorem tok_skip (a t : Bytes) (ha : Tok a = true) : skipOpt (a ++ t) = a ++ t := by
  have hsh := hS.shape a ha
  cases a with
  | nil => exact absurd rfl hsh.ne
  | cons c r => exact skipOpt_stop _ _ (hsh.gt List.mem_cons_self)

theorem scanBd_fwd (x t : Bytes) (hx : BdD Tok x) (ht : Stop t) :
    ∃ r, B (skipOpt (x ++ t)) = some r ∧ skipOpt r = skipOpt t := by
  obtain ⟨w1, a, w2, h1, h2, ha, rfl⟩ := hx
  refine ⟨w2 ++ t, ?_, skipOpt_ws h2 t⟩
  rw [List.append_assoc, List.append_assoc, skipOpt_ws h1, tok_skip hS a _ ha]
  exact hS.fwd a _ ha (Stop_ws h2 t ht)

theorem scanBd_bwd (s r : Bytes) (h : B (skipOpt s) = some r) : ∃ x, BdD Tok x ∧ s = x ++ skipOpt r := by
  obtain ⟨w1, hw1, hs⟩ := skipOpt_decomp s
  obtain ⟨a, h1, ha⟩ := hS.bwd _ _ h
  obtain ⟨w2, hw2, hr⟩ := skipOpt_decomp r
  refine ⟨w1 ++ (a ++ w2), ⟨w1, a, w2, hw1, hw2, ha, rfl⟩, ?_⟩
  rw [List.append_assoc, List.append_assoc, ← hr, ← h1, ← hs]

theorem scanPart_fwd (part t : Bytes) (hp : PartD Tok part) (ht : Tail t) :
    ∃ r, scanPart B (skipOpt (part ++ t)) = some r ∧ skipOpt r = t := by
  rcases hp with hx | ⟨x, y, hx, hy, rfl⟩
  · obtain ⟨r, h1, h2⟩ := scanBd_fwd hS part t hx (Tail_stop ht)
    rw [Tail_skip ht] at h2
    exact ⟨r, (scanPart_eq_some ..).2 ⟨r, h1, .inr ⟨fun r2 => h2 ▸ Tail_ne_dd ht r2, rfl⟩⟩, h2⟩
  · obtain ⟨r1, h1, h2⟩ := scanBd_fwd hS x (46 :: 46 :: (y ++ t)) hx (Stop_dd _)
    rw [skipOpt_stop _ _ (by decide)] at h2
    obtain ⟨r, h3, h4⟩ := scanBd_fwd hS y t hy (Tail_stop ht)
    rw [Tail_skip ht] at h4
    rw [List.append_assoc, List.cons_append, List.cons_append]
    exact ⟨r, (scanPart_eq_some ..).2 ⟨r1, h1, .inl ⟨_, h2, h3⟩⟩, h4⟩

theorem scanPart_bwd (s r : Bytes) (h : scanPart B (skipOpt s) = some r) :
    ∃ part, PartD Tok part ∧ s = part ++ skipOpt r := by
  obtain ⟨r1, h1, ⟨r2, h2, h3⟩ | ⟨_, rfl⟩⟩ := (scanPart_eq_some ..).1 h
  · obtain ⟨x, hx, hs⟩ := scanBd_bwd hS s r1 h1
    obtain ⟨y, hy, hr2⟩ := scanBd_bwd hS r2 r h3
    refine ⟨x ++ 46 :: 46 :: y, Or.inr ⟨x, y, hx, hy, rfl⟩, ?_⟩
    rw [hs, h2, hr2]
    exact (List.append_assoc x (46 :: 46 :: y) _).symm
  · obtain ⟨x, hx, hs⟩ := scanBd_bwd hS s r1 h1
    exact ⟨x, Or.inl hx, hs⟩

theorem BdD_le (x : Bytes) (hx : BdD Tok x) : ∀ c ∈ x, c ≤ 120 := by
  obtain ⟨w1, a, w2, h1, h2, ha, rfl⟩ := hx
  simp only [List.forall_mem_append]
  exact ⟨fun c hc => Nat.le_trans (WS_le h1 c hc) (by decide), fun c hc => ((hS.shape a ha).chars c hc).2,
    fun c hc => Nat.le_trans (WS_le h2 c hc) (by decide)⟩

theorem PartD_no124 (part : Bytes) (hp : PartD Tok part) : 124 ∉ part := by
  suffices h : ∀ c ∈ part, c ≤ 120 from fun hc => absurd (h 124 hc) (by decide)
  rcases hp with hx | ⟨x, y, hx, hy, rfl⟩
  · exact BdD_le hS part hx
  · simp only [List.forall_mem_append, List.forall_mem_cons]
    exact ⟨BdD_le hS x hx, by decide, by decide, BdD_le hS y hy⟩

/-- the scanner of parts accepts exactly the texts all of whose "|"-pieces are parts -/
theorem scanParts_iff : ∀ (fuel : Nat) (s : Bytes), s.length < fuel →
    (scanParts B fuel (skipOpt s) = true ↔ ∀ part ∈ s.splitOn 124, PartD Tok part) := by
  intro fuel
  induction fuel with
  | zero => exact fun s h => absurd h (Nat.not_lt_zero _)
  | succ fuel ih =>
    intro s hlen
    have hrest : ∀ p rest, s = p ++ 124 :: rest → rest.length < fuel := fun p rest e => by
      rw [e, List.length_append, List.length_cons] at hlen; omega
    rw [scanParts]
    constructor
    · intro h
      split at h
      · cases h
      · rename_i r h1
        obtain ⟨part, hp, rfl⟩ := scanPart_bwd hS s r h1
        have hno := PartD_no124 hS part hp
        split at h
        · rename_i h2
          rw [h2, List.append_nil, List.splitOn_eq_singleton hno]
          exact List.forall_mem_singleton.2 hp
        · rename_i r2 h2
          rw [h2, List.splitOn_append_cons_self_of_not_mem hno]
          exact List.forall_mem_cons.2 ⟨hp, (ih r2 (hrest part r2 (congrArg _ h2))).1 h⟩
        · cases h
    · intro h
      by_cases h0 : 124 ∈ s
      · obtain ⟨p, rest, rfl, hp⟩ := List.eq_append_cons_of_mem h0
        rw [List.splitOn_append_cons_self_of_not_mem hp, List.forall_mem_cons] at h
        obtain ⟨r, h1, h2⟩ := scanPart_fwd hS p (124 :: rest) h.1 (Tail_bar rest)
        simp only [h1, h2]
        exact (ih rest (hrest p rest rfl)).2 h.2
      · rw [List.splitOn_eq_singleton h0, List.forall_mem_singleton] at h
        obtain ⟨r, h1, h2⟩ := scanPart_fwd hS s [] h Tail_nil
        rw [List.append_nil] at h1
        simp only [h1, h2]

end generic

section model
variable {Tok : Bytes → Bool} (hshape : ∀ a, Tok a = true → TokShape a)
include hshape

/-- a piece `x` of the converted text whose trimmed form is a token comes from a boundary `y` of the text itself:
    the optsep on either side and the token are pulled back through `crlfToLf` one after the other -/
theorem boundary_back (s x t' : Bytes) (h : crlfToLf s = x ++ t') (hx : Tok (trimOpt x) = true) :
    ∃ y s', BdD Tok y ∧ s = y ++ s' ∧ crlfToLf s' = t' := by
  obtain ⟨w1', w2', hw1, hw2, hxd⟩ := trimOpt_decomp x
  rw [hxd, List.append_assoc, List.append_assoc] at h
  obtain ⟨w1, s1, hws1, rfl, hc1⟩ := crlfToLf_inv_ws _ _ _ h hw1
  obtain ⟨s2, rfl, hc2⟩ := crlfToLf_inv_tok _ _ _ hc1 fun c hc e => absurd (e ▸ (hshape _ hx).gt hc) (by decide)
  obtain ⟨w2, s3, hws2, rfl, hc3⟩ := crlfToLf_inv_ws _ _ _ hc2 hw2
  exact ⟨w1 ++ (trimOpt x ++ w2), s3, ⟨w1, trimOpt x, w2, hws1, hws2, hx, rfl⟩,
    by rw [List.append_assoc, List.append_assoc], hc3⟩

theorem boundary_back_all (s : Bytes) (hx : Tok (trimOpt (crlfToLf s)) = true) : BdD Tok s := by
  obtain ⟨y, s', hy, hs, hc⟩ := boundary_back hshape s _ [] (List.append_nil _).symm hx
  rw [crlfToLf_eq_nil _ hc, List.append_nil] at hs
  exact hs ▸ hy

theorem partLex_imp (part : Bytes) (h : partLex Tok part = true) : PartD Tok part := by
  -- one or two pieces of the converted text, each trimming to a token: pull them back to the text, left to right
  unfold partLex boundariesOf at h
  rw [splitDotDot_eq] at h
  generalize hq : sdd (crlfToLf part) = l at h
  match l, hq, h with
  | [], _, h => cases h
  | [x], hq, h => exact .inl (boundary_back_all hshape part (sdd_one _ _ hq ▸ h))
  | [x, y], hq, h =>
    simp only [List.map, Bool.and_eq_true] at h
    obtain ⟨x0, s1, hx0, rfl, hc1⟩ := boundary_back hshape part x _ (sdd_two _ _ _ hq) h.1
    obtain ⟨s2, rfl, hc2⟩ := crlfToLf_inv_tok [46, 46] s1 y hc1 (by decide)
    exact .inr ⟨x0, s2, hx0, boundary_back_all hshape s2 (hc2 ▸ h.2), rfl⟩
  | _ :: _ :: _ :: _, _, h => cases h

/-- a boundary goes through `crlfToLf` as one piece without ".." that trims to its token -/
theorem boundary_through (x : Bytes) (hx : BdD Tok x) :
    (∀ t, crlfToLf (x ++ t) = crlfToLf x ++ crlfToLf t) ∧ Tok (trimOpt (crlfToLf x)) = true ∧
      noDD (crlfToLf x) = true := by
  obtain ⟨w1, a, w2, h1, h2, ha, rfl⟩ := hx
  have hsh := hshape a ha
  obtain ⟨hw1, hc1⟩ := crlfToLf_ws h1
  obtain ⟨hw2, hc2⟩ := crlfToLf_ws h2
  have hno46 : ∀ w : Bytes, (∀ c ∈ w, isOptB c = true) → noDD w = true := fun w hw =>
    noDD_no46 w fun c hc e => absurd (isOptB_le (hw c hc)) (e ▸ by decide)
  have hx : ∀ t, crlfToLf (w1 ++ (a ++ w2) ++ t) = crlfToLf w1 ++ (a ++ crlfToLf w2) ++ crlfToLf t := fun t => by
    rw [List.append_assoc, List.append_assoc, hc1, crlfToLf_tok a _ fun c hc e => absurd (e ▸ hsh.gt hc) (by decide),
      hc2, List.append_assoc, List.append_assoc]
  have h0 := hx []
  rw [List.append_nil, crlfToLf_nil, List.append_nil] at h0
  rw [h0]
  refine ⟨hx, ?_, noDD_append _ _ (hno46 _ hw1) (noDD_append _ _ hsh.nodd (hno46 _ hw2))⟩
  rw [trimOpt_tok _ _ _ hw1 hw2 hsh.ne fun c hc =>
    Bool.eq_false_iff.2 fun h => Nat.not_le_of_lt (hsh.gt hc) (isOptB_le h)]
  exact ha

theorem partLex_of (part : Bytes) (h : PartD Tok part) : partLex Tok part = true := by
  unfold partLex boundariesOf
  rw [splitDotDot_eq]
  rcases h with hx | ⟨x, y, hx, hy, rfl⟩
  · obtain ⟨_, h2, h3⟩ := boundary_through hshape part hx
    rw [sdd_noDD _ h3]
    exact h2
  · obtain ⟨h1, h2, h3⟩ := boundary_through hshape x hx
    obtain ⟨_, h5, h6⟩ := boundary_through hshape y hy
    rw [h1, crlfToLf_cons _ _ (by decide), crlfToLf_cons _ _ (by decide), sdd_noDD_append _ _ h3, sdd_noDD _ h6]
    simp only [List.map, h2, h5, Bool.and_self]

theorem partLex_iff (part : Bytes) : partLex Tok part = true ↔ PartD Tok part :=
  ⟨partLex_imp hshape part, partLex_of hshape part⟩

end model

/-- the generic statement: a scanner with its tokens against the model's split-and-trim check -/
theorem scanParts_eq_lex {B : Bytes → Option Bytes} {numOK : Bytes → Bool}
    (hS : Scanner B (boundaryLex numOK)) (s : Bytes) :
    YS.scanParts B (s.length + 1) (YS.skipOpt s) = rangeLikeLex numOK s := by
  unfold rangeLikeLex
  rw [Bool.eq_iff_iff, scanParts_iff hS _ s (Nat.lt_succ_self _), splitOnByte_eq, List.all_eq_true]
  exact forall₂_congr fun p _ => (partLex_iff hS.shape p).symm

theorem isDigit_eq : YS.isDigit = isDig := rfl

theorem isDig_iff {c : Nat} : isDig c = true ↔ 48 ≤ c ∧ c ≤ 57 := by
  simp only [isDig, Bool.and_eq_true, decide_eq_true_eq]

def stripSign (s : Bytes) : Bytes := match s with | 45 :: r => r | r => r

def numBody (body : Bytes) : Bool :=
  let ip := body.takeWhile isDig
  let rest := body.dropWhile isDig
  !ip.isEmpty && !(ip.length > 1 && ip.head? = some 48) && (match rest with
    | [] => true
    | 46 :: fr => !fr.isEmpty && fr.all isDig
    | _ => false)

theorem numBoundaryOK_eq (s : Bytes) : numBoundaryOK s = numBody (stripSign s) := rfl

def scanNumBody (body : Bytes) : Option Bytes :=
  match YS.scanNonNeg body with
  | none => none
  | some (_, rest) =>
    match rest with
    | 46 :: d :: r => if isDig d then some ((d :: r).dropWhile isDig) else some rest
    | _ => some rest

theorem scanNumber_eq (s : Bytes) : YS.scanNumber s = scanNumBody (stripSign s) := rfl

theorem stripSign_minus (r : Bytes) : stripSign (45 :: r) = r := rfl
theorem stripSign_nil : stripSign [] = [] := rfl
theorem stripSign_cons (c : Nat) (r : Bytes) (h : c ≠ 45) : stripSign (c :: r) = c :: r := by
  unfold stripSign
  split
  · rename_i h'; exact absurd (List.cons.inj h').1 h
  · rfl

/-- "0" / non-zero-digit *DIGIT -/
def NatShape (ip : Bytes) : Prop :=
  ip ≠ [] ∧ (∀ c ∈ ip, isDig c = true) ∧ (decide (ip.length > 1) && decide (ip.head? = some 48)) = false

def NoDig (t : Bytes) : Prop := ∀ c r, t = c :: r → isDig c = false

theorem NoDig_dropWhile (l : Bytes) : NoDig (l.dropWhile isDig) := fun c r h => by
  have := List.head?_dropWhile_not isDig l
  rw [h] at this
  exact this

theorem scanNonNeg_iff (s ip r : Bytes) :
    YS.scanNonNeg s = some (ip, r) ↔ NatShape ip ∧ s = ip ++ r ∧ NoDig r := by
  unfold YS.scanNonNeg
  rw [isDigit_eq]
  simp only
  constructor
  · intro h
    split at h
    · cases h
    · rename_i hc
      simp only [Option.some.injEq, Prod.mk.injEq] at h
      obtain ⟨rfl, rfl⟩ := h
      simp only [Bool.or_eq_true, not_or, Bool.not_eq_true] at hc
      exact ⟨⟨fun h0 => by rw [h0] at hc; exact absurd hc.1 (by decide), List.all_eq_true.1 List.all_takeWhile, hc.2⟩,
        List.takeWhile_append_dropWhile.symm, NoDig_dropWhile _⟩
  · rintro ⟨⟨h1, h2, h3⟩, rfl, ht⟩
    rw [(takeWhile_append_stop h2 ht).1, (takeWhile_append_stop h2 ht).2, List.isEmpty_eq_false_iff.2 h1, h3]
    rfl

/-- nothing, or "." 1*DIGIT -/
def FracShape (fr : Bytes) : Prop := fr = [] ∨ ∃ d ds, fr = 46 :: d :: ds ∧ ∀ c ∈ d :: ds, isDig c = true

/-- ["-"] ("0" / non-zero-digit *DIGIT) ["." 1*DIGIT] -/
def NumShape (a : Bytes) : Prop :=
  ∃ sg ip fr, a = sg ++ (ip ++ fr) ∧ (sg = [] ∨ sg = [45]) ∧ NatShape ip ∧ FracShape fr

theorem stripSign_shape (sg ip x : Bytes) (hsg : sg = [] ∨ sg = [45]) (hip : NatShape ip) :
    stripSign (sg ++ (ip ++ x)) = ip ++ x := by
  rcases hsg with rfl | rfl
  · obtain ⟨h1, h2, _⟩ := hip
    cases ip with
    | nil => exact absurd rfl h1
    | cons c r => exact stripSign_cons c _ fun h => absurd (h ▸ h2 c List.mem_cons_self) (by decide)
  · rfl

theorem stripSign_decomp (s : Bytes) : ∃ sg, (sg = [] ∨ sg = [45]) ∧ s = sg ++ stripSign s := by
  cases s with
  | nil => exact ⟨[], Or.inl rfl, rfl⟩
  | cons c r =>
    by_cases hc : c = 45
    · subst hc; exact ⟨[45], Or.inr rfl, rfl⟩
    · exact ⟨[], Or.inl rfl, by rw [stripSign_cons c r hc]; rfl⟩

theorem FracShape_noDig {fr : Bytes} (h : FracShape fr) (t : Bytes) (ht : NoDig t) : NoDig (fr ++ t) := by
  rcases h with rfl | ⟨d, ds, rfl, _⟩
  · exact ht
  · intro c r h; cases h; rfl

theorem numBody_iff (body : Bytes) :
    numBody body = true ↔ ∃ ip fr, body = ip ++ fr ∧ NatShape ip ∧ FracShape fr := by
  unfold numBody
  simp only
  constructor
  · intro h
    simp only [Bool.and_eq_true, Bool.not_eq_true'] at h
    obtain ⟨⟨h1, h2⟩, h3⟩ := h
    refine ⟨body.takeWhile isDig, body.dropWhile isDig, List.takeWhile_append_dropWhile.symm,
      ⟨fun h0 => by rw [h0] at h1; exact absurd h1 (by decide), List.all_eq_true.1 List.all_takeWhile, h2⟩, ?_⟩
    split at h3
    · rename_i h4; exact Or.inl h4
    · rename_i fr h4
      simp only [Bool.and_eq_true, Bool.not_eq_true', List.all_eq_true] at h3
      cases fr with
      | nil => exact absurd h3.1 (by decide)
      | cons d ds => exact Or.inr ⟨d, ds, h4, h3.2⟩
    · cases h3
  · rintro ⟨ip, fr, rfl, ⟨h1, h2, h3⟩, hfr⟩
    have hnd : NoDig fr := List.append_nil fr ▸ FracShape_noDig hfr [] nofun
    rw [(takeWhile_append_stop h2 hnd).1, (takeWhile_append_stop h2 hnd).2, List.isEmpty_eq_false_iff.2 h1, h3]
    rcases hfr with rfl | ⟨d, ds, rfl, hd⟩
    · rfl
    · simp only [Bool.not_false, Bool.true_and, List.isEmpty_cons, List.all_eq_true]
      exact hd

theorem numBoundaryOK_iff (a : Bytes) : numBoundaryOK a = true ↔ NumShape a := by
  rw [numBoundaryOK_eq, numBody_iff]
  constructor
  · rintro ⟨ip, fr, h1, h2, h3⟩
    obtain ⟨sg, h4, h5⟩ := stripSign_decomp a
    exact ⟨sg, ip, fr, by rw [← h1]; exact h5, h4, h2, h3⟩
  · rintro ⟨sg, ip, fr, rfl, h1, h2, h3⟩
    exact ⟨ip, fr, stripSign_shape sg ip fr h1 h2, h2, h3⟩

theorem scanNumBody_fwd (ip fr t : Bytes) (hip : NatShape ip) (hfr : FracShape fr) (ht : Stop t) :
    scanNumBody (ip ++ (fr ++ t)) = some t := by
  unfold scanNumBody
  rw [(scanNonNeg_iff _ _ _).2 ⟨hip, rfl, FracShape_noDig hfr t ht.1⟩]
  simp only
  rcases hfr with rfl | ⟨d, ds, rfl, hd⟩
  · simp only [List.nil_append]
    split
    · rename_i _ d r
      rw [if_neg (Bool.eq_false_iff.1 (ht.2 d r rfl))]
    · rfl
  · simp only [List.cons_append]
    rw [if_pos (hd d List.mem_cons_self)]
    exact congrArg some (takeWhile_append_stop hd ht.1).2

theorem scanNumBody_bwd (body r : Bytes) (h : scanNumBody body = some r) :
    ∃ ip fr, body = (ip ++ fr) ++ r ∧ NatShape ip ∧ FracShape fr := by
  unfold scanNumBody at h
  cases h1 : YS.scanNonNeg body with
  | none => rw [h1] at h; cases h
  | some p =>
    obtain ⟨ip, rest⟩ := p
    rw [h1] at h
    simp only at h
    obtain ⟨hip, hb, _⟩ := (scanNonNeg_iff _ _ _).1 h1
    have hplain : some rest = some r → ∃ ip fr, body = (ip ++ fr) ++ r ∧ NatShape ip ∧ FracShape fr := fun e =>
      ⟨ip, [], by rw [hb, Option.some.inj e, List.append_nil], hip, Or.inl rfl⟩
    split at h
    · rename_i d r' _
      split at h
      · rename_i hd
        simp only [Option.some.injEq] at h
        refine ⟨ip, 46 :: (d :: r').takeWhile isDig, ?_, hip, Or.inr ⟨d, r'.takeWhile isDig, ?_, ?_⟩⟩
        · rw [hb, ← h, List.append_assoc, List.cons_append, List.takeWhile_append_dropWhile]
        · rw [List.takeWhile_cons, if_pos hd]
        · have := List.all_eq_true.1 (List.all_takeWhile (p := isDig) (l := d :: r'))
          rw [List.takeWhile_cons, if_pos hd] at this
          exact this
      · exact hplain h
    · exact hplain h

theorem scanNumber_fwd (a t : Bytes) (ha : NumShape a) (ht : Stop t) : YS.scanNumber (a ++ t) = some t := by
  obtain ⟨sg, ip, fr, rfl, h1, h2, h3⟩ := ha
  rw [scanNumber_eq, List.append_assoc, List.append_assoc, stripSign_shape sg ip _ h1 h2]
  exact scanNumBody_fwd ip fr t h2 h3 ht

theorem scanNumber_bwd (s r : Bytes) (h : YS.scanNumber s = some r) : ∃ a, s = a ++ r ∧ NumShape a := by
  rw [scanNumber_eq] at h
  obtain ⟨ip, fr, h1, h2, h3⟩ := scanNumBody_bwd _ _ h
  obtain ⟨sg, h4, h5⟩ := stripSign_decomp s
  refine ⟨sg ++ (ip ++ fr), ?_, ⟨sg, ip, fr, rfl, h4, h2, h3⟩⟩
  rw [List.append_assoc, ← h1]; exact h5

/-- bytes of a number ("-", ".", digits), no ".." among them and no "." at the end -/
def NumBytes (a : Bytes) : Prop := (∀ c ∈ a, 45 ≤ c ∧ c ≤ 57) ∧ noDD a = true

theorem NumBytes.append {a b : Bytes} (ha : NumBytes a) (hb : NumBytes b) : NumBytes (a ++ b) :=
  ⟨fun c hc => (List.mem_append.1 hc).elim (ha.1 c) (hb.1 c), noDD_append _ _ ha.2 hb.2⟩

theorem NumBytes_digits {a : Bytes} (h : ∀ c ∈ a, isDig c = true) : NumBytes a :=
  ⟨fun c hc => have hd := isDig_iff.1 (h c hc); ⟨Nat.le_trans (by decide) hd.1, hd.2⟩,
   noDD_no46 _ fun c hc e => absurd (h c hc) (by rw [e]; decide)⟩

theorem NumShape_numBytes {a : Bytes} (h : NumShape a) : a ≠ [] ∧ NumBytes a := by
  obtain ⟨sg, ip, fr, rfl, h1, h2, h3⟩ := h
  refine ⟨fun h0 => h2.1 (List.append_eq_nil_iff.1 (List.append_eq_nil_iff.1 h0).2).1, .append ?_ (.append (NumBytes_digits h2.2.1) ?_)⟩
  · rcases h1 with rfl | rfl <;> exact ⟨by decide, by decide⟩
  · rcases h3 with rfl | ⟨d, ds, rfl, hd⟩
    · exact ⟨by decide, rfl⟩
    · have hdd := NumBytes_digits hd
      refine ⟨List.forall_mem_cons.2 ⟨by decide, hdd.1⟩, ?_⟩
      rw [noDD_dot_cons, hdd.2, Bool.and_true, decide_eq_true_eq]
      exact fun e => absurd (hd d List.mem_cons_self) (by rw [e]; decide)

/-- keywords in front of a number scanner -/
def kwScan (numScan : Bytes → Option Bytes) (s : Bytes) : Option Bytes :=
  match s with
  | 109 :: 105 :: 110 :: r => some r
  | 109 :: 97 :: 120 :: r => some r
  | _ => numScan s

theorem scanRangeBoundary_eq : YS.scanRangeBoundary = kwScan YS.scanNumber := rfl

theorem kwScan_eq_some (numScan : Bytes → Option Bytes) (s r : Bytes) (h : kwScan numScan s = some r) :
    s = 109 :: 105 :: 110 :: r ∨ s = 109 :: 97 :: 120 :: r ∨ numScan s = some r := by
  unfold kwScan at h
  split at h
  · cases h; exact .inl rfl
  · cases h; exact .inr (.inl rfl)
  · exact .inr (.inr h)

theorem kwScan_ne (numScan : Bytes → Option Bytes) (c : Nat) (r : Bytes) (h : c ≠ 109) :
    kwScan numScan (c :: r) = numScan (c :: r) := by
  unfold kwScan
  split
  · rename_i h'; exact absurd (List.cons.inj h').1 h
  · rename_i h'; exact absurd (List.cons.inj h').1 h
  · rfl

theorem boundaryLex_iff (numOK : Bytes → Bool) (a : Bytes) :
    boundaryLex numOK a = true ↔ a = [109, 105, 110] ∨ a = [109, 97, 120] ∨ numOK a = true := by
  simp [boundaryLex, msg_min, msg_max, or_assoc]

theorem kwScanner (numScan : Bytes → Option Bytes) (numOK : Bytes → Bool)
    (hfwd : ∀ a t, numOK a = true → Stop t → numScan (a ++ t) = some t)
    (hbwd : ∀ s r, numScan s = some r → ∃ a, s = a ++ r ∧ numOK a = true)
    (hnum : ∀ a, numOK a = true → a ≠ [] ∧ NumBytes a) :
    Scanner (kwScan numScan) (boundaryLex numOK) where
  fwd := by
    intro a t ha ht
    rw [boundaryLex_iff] at ha
    rcases ha with rfl | rfl | ha
    · rfl
    · rfl
    · -- a number does not begin like a keyword
      obtain ⟨hne, hb, _⟩ := hnum a ha
      cases a with
      | nil => exact absurd rfl hne
      | cons c r =>
        rw [List.cons_append, kwScan_ne _ _ _ (Nat.ne_of_lt (Nat.lt_of_le_of_lt (hb c List.mem_cons_self).2 (by decide)))]
        exact hfwd _ t ha ht
  bwd := by
    intro s r h
    rcases kwScan_eq_some numScan s r h with rfl | rfl | h
    · exact ⟨[109, 105, 110], rfl, (boundaryLex_iff _ _).2 (Or.inl rfl)⟩
    · exact ⟨[109, 97, 120], rfl, (boundaryLex_iff _ _).2 (Or.inr (Or.inl rfl))⟩
    · obtain ⟨a, h1, h2⟩ := hbwd s r h
      exact ⟨a, h1, (boundaryLex_iff _ _).2 (Or.inr (Or.inr h2))⟩
  shape := by
    intro a ha
    rw [boundaryLex_iff] at ha
    rcases ha with rfl | rfl | ha
    · exact ⟨nofun, by decide, by decide⟩
    · exact ⟨nofun, by decide, by decide⟩
    · obtain ⟨hne, hb, hdd⟩ := hnum a ha
      exact ⟨hne, fun c hc => ⟨(hb c hc).1, Nat.le_trans (hb c hc).2 (by decide)⟩, hdd⟩

theorem rangeScanner : Scanner YS.scanRangeBoundary (boundaryLex numBoundaryOK) := by
  rw [scanRangeBoundary_eq]
  apply kwScanner
  · intro a t ha ht; exact scanNumber_fwd a t ((numBoundaryOK_iff a).1 ha) ht
  · intro s r h
    obtain ⟨a, h1, h2⟩ := scanNumber_bwd s r h
    exact ⟨a, h1, (numBoundaryOK_iff a).2 h2⟩
  · intro a ha; exact NumShape_numBytes ((numBoundaryOK_iff a).1 ha)

/-- the split-and-trim check of the model accepts exactly what the ABNF scanner accepts -/
theorem rangeArgOK_eq (s : Bytes) : YS.rangeArgOK s = rangeLikeLex numBoundaryOK s :=
  scanParts_eq_lex rangeScanner s

/-- the numeric boundary of a length: a non-negative integer that fits 64 bits -/
def lenOK (b : Bytes) : Bool := match nonNegDecimal b with | some n => decide (n < 2 ^ 64) | none => false

def lenScan (s : Bytes) : Option Bytes :=
  match YS.scanNonNeg s with
  | some (ds, rest) => if YS.natOfDigits ds < 2 ^ 64 then some rest else none
  | none => none

theorem scanLengthBoundary_eq : YS.scanLengthBoundary = kwScan lenScan := rfl

theorem lenScan_eq_some (s r : Bytes) :
    lenScan s = some r ↔ ∃ ds, YS.scanNonNeg s = some (ds, r) ∧ YS.natOfDigits ds < 2 ^ 64 := by
  unfold lenScan
  cases YS.scanNonNeg s with
  | none => exact ⟨fun h => (nomatch h), fun ⟨_, h, _⟩ => (nomatch h)⟩
  | some p =>
    obtain ⟨ds, rest⟩ := p
    simp only [Option.ite_none_right_eq_some, Option.some.injEq, Prod.mk.injEq]
    exact ⟨fun ⟨h, e⟩ => ⟨ds, ⟨rfl, e⟩, h⟩, fun ⟨_, ⟨e1, e2⟩, h⟩ => ⟨e1 ▸ h, e2⟩⟩

/-- non-zero-digit *DIGIT -/
theorem NatShape_cons (c : Nat) (r : Bytes) (hne : ¬ (c = 48 ∧ r = [])) :
    NatShape (c :: r) ↔ (49 ≤ c ∧ c ≤ 57) ∧ ∀ x ∈ r, isDig x = true := by
  unfold NatShape
  rw [List.forall_mem_cons, isDig_iff]
  constructor
  · rintro ⟨_, ⟨⟨h1, h2⟩, h3⟩, h4⟩
    refine ⟨⟨Nat.lt_of_le_of_ne h1 fun e => ?_, h2⟩, h3⟩
    subst e
    cases r with
    | nil => exact hne ⟨rfl, rfl⟩
    | cons d ds => cases h4
  · rintro ⟨⟨h1, h2⟩, h3⟩
    refine ⟨List.cons_ne_nil _ _, ⟨⟨Nat.le_of_succ_le h1, h2⟩, h3⟩, ?_⟩
    rw [Bool.and_eq_false_iff]
    exact .inr (decide_eq_false fun e => absurd h1 (by cases e; decide))

theorem nonNegDecimal_iff (a : Bytes) (n : Nat) :
    nonNegDecimal a = some n ↔ NatShape a ∧ n = YS.natOfDigits a := by
  -- along the three branches of `nonNegDecimal`: empty, "0", and a first byte with the rest
  unfold nonNegDecimal
  split
  · exact ⟨fun h => (nomatch h), fun h => absurd rfl h.1.1⟩
  · exact ⟨fun h => ⟨⟨nofun, by decide, by decide⟩, (Option.some.inj h).symm⟩, fun h => congrArg some h.2.symm⟩
  · rename_i c r hne
    rw [Option.ite_none_right_eq_some, Bool.and_eq_true, Bool.and_eq_true, decide_eq_true_eq, decide_eq_true_eq,
      List.all_eq_true, ← NatShape_cons c r fun h => hne h.1 h.2]
    exact and_congr_right fun _ => Option.some_inj.trans eq_comm

theorem lenOK_iff (a : Bytes) : lenOK a = true ↔ NatShape a ∧ YS.natOfDigits a < 2 ^ 64 := by
  unfold lenOK
  cases h1 : nonNegDecimal a with
  | none =>
    refine ⟨fun h => (nomatch h), fun h => ?_⟩
    rw [(nonNegDecimal_iff a _).2 ⟨h.1, rfl⟩] at h1
    cases h1
  | some n =>
    obtain ⟨h2, rfl⟩ := (nonNegDecimal_iff a n).1 h1
    simp only [decide_eq_true_eq, h2, true_and]

theorem lengthScanner : Scanner YS.scanLengthBoundary (boundaryLex lenOK) := by
  rw [scanLengthBoundary_eq]
  apply kwScanner
  · intro a t ha ht
    obtain ⟨h1, h2⟩ := (lenOK_iff a).1 ha
    exact (lenScan_eq_some _ _).2 ⟨a, (scanNonNeg_iff _ _ _).2 ⟨h1, rfl, ht.1⟩, h2⟩
  · intro s r h
    obtain ⟨ds, h1, hlt⟩ := (lenScan_eq_some _ _).1 h
    obtain ⟨h2, h3, _⟩ := (scanNonNeg_iff _ _ _).1 h1
    exact ⟨ds, h3, (lenOK_iff ds).2 ⟨h2, hlt⟩⟩
  · intro a ha; exact ⟨((lenOK_iff a).1 ha).1.1, NumBytes_digits ((lenOK_iff a).1 ha).1.2.1⟩

theorem lengthArgOK_eq (s : Bytes) :
    YS.lengthArgOK s =
      rangeLikeLex (fun b => match nonNegDecimal b with | some n => decide (n < 2 ^ 64) | none => false) s :=
  scanParts_eq_lex (numOK := lenOK) lengthScanner s

end YV.YC

#print axioms YV.YC.rangeLikeOK_eq
#print axioms YV.YC.rangeArgOK_eq
#print axioms YV.YC.lengthArgOK_eq
