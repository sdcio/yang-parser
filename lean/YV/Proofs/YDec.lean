/-
  Proofs.YDec — the lexical / 64-bit check of decimal64 values (schema/decimal64_utils.go validateDecimal64String,
  which compares the integer part and the padded fraction part with quotient and remainder of 2^63-1 by 10^fd) is
  exact: a text passes iff it is a decimal with at most fd fraction digits whose value scaled by 10^fd lies in
  [-2^63, 2^63-1], for every fraction-digits ≥ 1 (YANG has 1..18).  Before that: the texts of unsigned integers
  (`uintDigits_spec`).
-/
import YV.Spec.YTypesS
import YV.Proofs.YTypes
namespace YV.T
open YV YV.Y YV.TS

/-- what `uinteger.Validate` hands to `strconv.ParseUint` is a digit string exactly when the text is an integer ≥ 0,
    and then denotes it -/
theorem uintDigits_spec (s : Bytes) (v : Int) :
    (allDigits (uintDigits s) = true ∧ Int.ofNat (natOf (uintDigits s)) = v) ↔ (parseSigned s = some v ∧ 0 ≤ v) := by
  -- the cases of `uintDigits`: "+"; "-" and zeros; "-" and something else; no sign.
  -- where both functions go on with the same digits `r` (after "+", or with no sign) the two sides are `hofNat`;
  -- after "-" only zeros are kept, and `parseSigned` gives a value ≥ 0 only for zeros (`natOf_eq_zero_iff`)
  have hofNat : ∀ (r : Bytes), (allDigits r = true ∧ Int.ofNat (natOf r) = v) ↔
      ((if allDigits r = true then some (Int.ofNat (natOf r)) else none) = some v ∧ 0 ≤ v) := by
    intro r
    by_cases h : allDigits r = true
    · simp only [h, true_and, if_true, Option.some.injEq]
      exact ⟨fun e => ⟨e, e ▸ Int.natCast_nonneg _⟩, And.left⟩
    · simp [h]
  fun_cases uintDigits s with
  | case1 r => exact hofNat r
  | case2 r hz =>
    rw [Bool.and_eq_true] at hz
    have hd : r.all YC.isDig = true := List.all_eq_true.2 fun x hx => by
      rw [of_decide_eq_true (List.all_eq_true.1 hz.2 x hx)]; decide
    have ha : allDigits r = true := by rw [allDigits, hz.1, hd]; rfl
    rw [parseSigned, if_pos ha, (natOf_eq_zero_iff r hd).2 hz.2, Option.some.injEq]
    exact ⟨fun h => ⟨h.2, h.2 ▸ Int.le_refl _⟩, fun h => ⟨ha, h.1⟩⟩
  | case3 r hz =>
    have h45 : allDigits (45 :: r) = false := by simp [allDigits, YC.isDig]
    rw [h45, parseSigned]
    refine ⟨nofun, fun ⟨hp, h0⟩ => ?_⟩
    split at hp
    · rename_i ha
      rw [allDigits, Bool.and_eq_true] at ha
      cases hp
      have hn : natOf r = 0 := by rw [Int.ofNat_eq_natCast] at h0; omega
      exact absurd ((Bool.and_eq_true _ _).symm ▸ ⟨ha.1, (natOf_eq_zero_iff r ha.2).1 hn⟩) hz
    · cases hp
  | case4 _ h43 h45 =>
    rw [parseSigned.eq_3 s h45 h43]
    exact hofNat s

/-- 2^63 is no multiple of 10^fd, being no multiple of 10: the remainder of 2^63-1 is not the largest one -/
theorem rem_room_of_pos : ∀ fd : Nat, 1 ≤ fd → (2 ^ 63 - 1) % 10 ^ fd + 1 < 10 ^ fd
  | n + 1, _ => by
    have hlt := Nat.mod_lt (2 ^ 63 - 1) (Nat.pow_pos (by decide) : 0 < 10 ^ (n + 1))
    have hdm := Nat.div_add_mod (2 ^ 63 - 1) (10 ^ (n + 1))
    -- `(n := n)`: 2 ^ 63 is a power with a successor exponent as well
    rw [Nat.pow_succ' (n := n)] at hlt hdm ⊢
    rw [Nat.mul_assoc] at hdm
    omega

theorem rem_room (fd : Nat) (h1 : 1 ≤ fd) (h2 : fd ≤ 18) : (2 ^ 63 - 1) % 10 ^ fd + 1 < 10 ^ fd :=
  rem_room_of_pos fd h1

/-- the arithmetic core of `validateDecimal64String`, `M` and `D` standing for 2^63-1 and 10^fd -/
def lexCore (M D : Nat) (neg : Bool) (ip fr : Nat) : Bool :=
  if ip > (if neg then M + 1 else M) then false
  else if !neg then
    if ip > M / D then false else if ip = M / D then fr ≤ M % D else true
  else
    if ip > M / D then false else if ip = M / D then fr ≤ M % D + 1 else true

/-- the cascade of comparisons: against the bound itself (redundant), then quotient, then remainder -/
theorem cascade_iff (ip fr q r D B : Nat) (hfr : fr < D) (hr : r < D) (hB : q ≤ B) :
    (if ip > B then false else if ip > q then false else if ip = q then decide (fr ≤ r) else true) = true ↔
      ip * D + fr ≤ q * D + r := by
  -- one more in the quotient outweighs the remainders
  rcases Nat.lt_trichotomy ip q with h | rfl | h
  · have := Nat.mul_le_mul_right D (Nat.succ_le_of_lt h)
    rw [Nat.succ_mul] at this
    rw [if_neg (Nat.not_lt.2 (Nat.le_trans (Nat.le_of_lt h) hB)), if_neg (Nat.lt_asymm h), if_neg (Nat.ne_of_lt h)]
    exact ⟨fun _ => by omega, fun _ => rfl⟩
  · rw [if_neg (Nat.not_lt.2 hB), if_neg (Nat.lt_irrefl _), if_pos rfl, decide_eq_true_eq]
    exact Nat.add_le_add_iff_left.symm
  · have := Nat.mul_le_mul_right D (Nat.succ_le_of_lt h)
    rw [Nat.succ_mul] at this
    rw [if_pos h, ite_self]
    exact ⟨nofun, by omega⟩

/-- for the negative bound `M + 1` the remainder to compare with is `M % D + 1`: that needs room below `D` -/
theorem lexCore_iff (M D : Nat) (hroom : M % D + 1 < D) (neg : Bool) (ip fr : Nat) (hfr : fr < D) :
    lexCore M D neg ip fr = true ↔ ip * D + fr ≤ (if neg then M + 1 else M) := by
  have hdm := Nat.div_add_mod M D
  have hq : M / D ≤ M := Nat.div_le_self _ _
  rw [Nat.mul_comm] at hdm
  unfold lexCore
  cases neg with
  | false =>
    simp only [Bool.false_eq_true, ↓reduceIte, Bool.not_false]
    exact (cascade_iff ip fr _ _ _ _ hfr (by omega) hq).trans (by rw [hdm])
  | true =>
    simp only [↓reduceIte, Bool.not_true, Bool.false_eq_true]
    exact (cascade_iff ip fr _ _ _ _ hfr hroom (Nat.le_succ_of_le hq)).trans (by rw [← Nat.add_assoc, hdm])

/-- what `parseDecimalText` returns, in terms of the integer and fraction digits that `validateDecimal64String`
    looks at again -/
theorem parseDecimalText_some {s : Bytes} {neg : Bool} {d k : Nat} (h : parseDecimalText s = some (neg, d, k)) :
    neg = (decSign s).1 ∧
    d = natOf ((decSign s).2.takeWhile YC.isDig) * 10 ^ k + natOf (((decSign s).2.dropWhile YC.isDig).drop 1) ∧
    natOf (((decSign s).2.dropWhile YC.isDig).drop 1) < 10 ^ k := by
  unfold parseDecimalText at h
  simp only at h
  split at h
  · cases h
  · split at h
    · rename_i hr
      cases h
      simp [hr, natOf]
    · rename_i fr hr
      split at h
      · rename_i had
        cases h
        simp only [allDigits, Bool.and_eq_true] at had
        exact ⟨rfl, by rw [hr, natOf_append]; rfl, by rw [hr]; exact natOf_lt fr had.2⟩
      · cases h
    · cases h

/-- **the decimal64 lexical / 64-bit check is exact** -/
theorem dec64LexOK_iff (fd : Nat) (h1 : 1 ≤ fd) (s : Bytes) :
    dec64LexOK fd s = true ↔ ∃ v, scaled fd s = some v ∧ -(2 ^ 63 : Int) ≤ v ∧ v ≤ 2 ^ 63 - 1 := by
  unfold dec64LexOK scaled
  cases hp : parseDecimalText s with
  | none => exact ⟨nofun, nofun⟩
  | some w =>
    obtain ⟨neg, d, k⟩ := w
    obtain ⟨_, rfl, hfr⟩ := parseDecimalText_some hp
    simp only
    generalize natOf ((decSign s).2.takeWhile YC.isDig) = ip at *
    generalize natOf (((decSign s).2.dropWhile YC.isDig).drop 1) = fr at *
    -- the bound 2^63 of the negative side is (2^63-1) + 1 by evaluation
    change (if k > fd then false else lexCore (2 ^ 63 - 1) (10 ^ fd) neg ip (fr * 10 ^ (fd - k))) = true ↔ _
    by_cases hk : k > fd
    · rw [if_pos hk, if_pos hk]; exact ⟨nofun, nofun⟩
    · have hpow : 10 ^ k * 10 ^ (fd - k) = 10 ^ fd := by
        rw [← Nat.pow_add, Nat.add_sub_of_le (Nat.le_of_not_gt hk)]
      have hfr' : fr * 10 ^ (fd - k) < 10 ^ fd := by
        rw [← hpow]; exact Nat.mul_lt_mul_of_pos_right hfr (Nat.pow_pos (by decide))
      have hM : (ip * 10 ^ k + fr) * 10 ^ (fd - k) = ip * 10 ^ fd + fr * 10 ^ (fd - k) := by
        rw [Nat.add_mul, Nat.mul_assoc, hpow]
      rw [if_neg hk, if_neg hk, lexCore_iff _ _ (rem_room_of_pos fd h1) _ ip _ hfr', hM]
      simp only [Option.some.injEq, exists_eq_left', Int.ofNat_eq_natCast]
      generalize ip * 10 ^ fd + fr * 10 ^ (fd - k) = M
      cases neg <;> simp only [↓reduceIte, Bool.false_eq_true] <;> omega

end YV.T
