/-
  Proofs.YParseEq — the statement parser in a form to reason about.  Separators in front are skipped whatever
  the fuel (`peekNS_skip`); with the fuel the parser gives, `peekNS` and `nextNS` depend on the item
  list only through `vis`, the items from the first one that is no separator: the parser looks at the head of
  `vis` and `nextNS` leaves its tail.  The parser's functions are then restated with `peek` named, the
  destructuring lets gone and the binds written out, and `parse` as `parseItems` on what the lexer produced;
  YTree and YTotal both rewrite with these equations.
-/
import YV.Model.YParse
namespace YV.Y

def AllSep (l : List Item) : Prop := ∀ it ∈ l, it.typ = .sep

/-- for any fuel, sufficient or not: hence by its own induction, not through `vis` below -/
theorem peekNS_skip (seps rest : List Item) (h : AllSep seps) (s : PS) (f : Nat) :
    ∃ s' : PS, peekNS (f + seps.length) { s with items := seps ++ rest } =
      peekNS f { s' with items := rest } ∧ s'.items = rest := by
  induction seps generalizing s with
  | nil => exact ⟨{ s with items := rest }, by simp, rfl⟩
  | cons a seps ih =>
    have ha : a.typ = .sep := h a (by simp)
    rw [List.length_cons, ← Nat.add_assoc]
    simp only [peekNS, List.cons_append, ha, ↓reduceIte]
    obtain ⟨s', h1, h2⟩ := ih (fun x hx => h x (by simp [hx])) { items := seps ++ rest, taken := s.taken + 1, lastPos := a.pos }
    exact ⟨s', by simpa using h1, h2⟩

def vis (l : List Item) : List Item := l.dropWhile (·.typ = .sep)

theorem vis_sep {a : Item} (l : List Item) (h : a.typ = .sep) : vis (a :: l) = vis l := by
  simp [vis, h]

theorem vis_cons {a : Item} (l : List Item) (h : a.typ ≠ .sep) : vis (a :: l) = a :: l := by
  simp [vis, h]

theorem vis_append {seps : List Item} (l : List Item) (h : AllSep seps) : vis (seps ++ l) = vis l :=
  List.dropWhile_append_of_pos fun a ha => decide_eq_true (h a ha)

theorem length_vis_le (l : List Item) : (vis l).length ≤ l.length := (List.dropWhile_sublist _).length_le

/-- with no visible item left the parser gets an EOF item at the position where the skipping stopped, which
    the model keeps in the state it returns: hence the default that reads `(peekNS f s).2` -/
theorem peekNS_vis (f : Nat) (s : PS) (hf : s.items.length < f) :
    (peekNS f s).2.items = vis s.items ∧
    (peekNS f s).1 = (vis s.items).headD ⟨.eof, (peekNS f s).2.lastPos, []⟩ := by
  induction f generalizing s with
  | zero => omega
  | succ f ih =>
    cases hi : s.items with
    | nil => simp [peekNS, hi, vis]
    | cons it rest =>
      by_cases hsep : it.typ = .sep
      · simp only [peekNS, hi, hsep, ↓reduceIte, vis_sep]
        exact ih _ (by simp only [hi, List.length_cons] at hf; simpa using hf)
      · simp [peekNS, hi, hsep, vis_cons]

def PS.peek (s : PS) : Item := (peekNS (s.items.length + 1) s).1

theorem peek_of_vis {s : PS} {it : Item} {rest : List Item} (h : vis s.items = it :: rest) : s.peek = it := by
  rw [PS.peek, (peekNS_vis _ s (Nat.lt_succ_self _)).2, h]; rfl

theorem vis_of_peek {s : PS} (h : s.peek.typ ≠ .eof) : ∃ rest, vis s.items = s.peek :: rest := by
  have := (peekNS_vis _ s (Nat.lt_succ_self _)).2
  cases hv : vis s.items with
  | nil => rw [hv] at this; exact absurd (by rw [PS.peek, this]; rfl) h
  | cons it rest => exact ⟨rest, by rw [peek_of_vis hv]⟩

theorem nextNS_vis (s : PS) : (nextNS s).1 = s.peek ∧ (nextNS s).2.items = (vis s.items).tail := by
  have h := (peekNS_vis _ s (Nat.lt_succ_self _)).1
  unfold nextNS PS.peek
  generalize peekNS (s.items.length + 1) s = p at h
  obtain ⟨it, s1⟩ := p
  simp only [] at h ⊢
  split <;> rename_i h0 <;> exact ⟨rfl, by rw [← h, h0]; rfl⟩

theorem expectT_eq (t : ITyp) (s : PS) :
    expectT t s = if (nextNS s).1.typ = t then pure ((nextNS s).1, (nextNS s).2) else (nextNS s).2.fail := rfl

/-- `openQuotePos` and the decoding of one quoted piece -/
def pieceOf (input : Bytes) (it qt : Item) : Bytes :=
  if qt.val = [34] then
    let posStart := qt.pos - it.val.length
    let before := input.take posStart
    let lnBgn := match find1 10 before.reverse with | some i => posStart - i | none => 0
    trimWhitespace (leadWidth ((input.drop lnBgn).take (posStart - lnBgn))) it.val
  else it.val

theorem argQuoted_succ (input : Bytes) (f : Nat) (s : PS) :
    argQuoted input (f + 1) s =
      if s.peek.typ = .string then
        expectT .quote (nextNS s).2 >>= fun q =>
          argConcat input f q.2 >>= fun m => pure (pieceOf input s.peek q.1 ++ m.1, m.2)
      else if s.peek.typ = .quote then argConcat input f (nextNS s).2
      else (nextNS s).2.fail := by
  rw [argQuoted]; rfl

theorem argConcat_succ (input : Bytes) (f : Nat) (s : PS) :
    argConcat input (f + 1) s =
      if s.peek.typ = .lbrace || s.peek.typ = .semi then pure ([], s)
      else if s.peek.typ = .plus then expectT .quote (nextNS s).2 >>= fun q => argQuoted input f q.2
      else (nextNS s).2.fail := rfl

theorem argument_eq (input : Bytes) (s : PS) :
    argument input s =
      if s.peek.typ = .lbrace || s.peek.typ = .semi then pure ([], s)
      else if s.peek.typ = .string then pure ((nextNS s).1.val, (nextNS s).2)
      else if s.peek.typ = .quote then argQuoted input (s.items.length + 2) (nextNS s).2
      else (nextNS s).2.fail := rfl

/-- what follows the argument in `stmt`: the delimiter and, for a block, the sub-statements -/
def stmtTail (chk : Stmt → Bool) (input : Bytes) (f : Nat) (id : Item) (arg : Bytes) (s2 : PS) : P (Stmt × PS) :=
  if (nextNS s2).1.typ = .semi then
    if chk (.mk id.val arg id.pos []) then pure (.mk id.val arg id.pos [], (nextNS s2).2)
    else .error (.check id.pos, (nextNS s2).2.taken)
  else if (nextNS s2).1.typ = .lbrace then
    pStar chk input f (nextNS s2).2 >>= fun r =>
      expectT .rbrace r.2 >>= fun q =>
        if chk (.mk id.val arg id.pos r.1) then pure (.mk id.val arg id.pos r.1, q.2)
        else .error (.check id.pos, q.2.taken)
  else (nextNS s2).2.fail

theorem pStmt_succ (chk : Stmt → Bool) (input : Bytes) (f : Nat) (s : PS) :
    pStmt chk input (f + 1) s =
      expectT .string s >>= fun r => argument input r.2 >>= fun a => stmtTail chk input f r.1 a.1 a.2 := by
  rw [pStmt]
  congr 1
  funext r
  -- the model asks for an opening brace before it calls `argument`, which asks again and returns the same; and
  -- it writes the continuation under each branch of that `if`
  by_cases h : (peekNS (r.2.items.length + 1) r.2).1.typ = .lbrace
  · simp only [argument, h, ↓reduceIte]; rfl
  · simp only [h, ↓reduceIte]; rfl

theorem pStar_succ (chk : Stmt → Bool) (input : Bytes) (f : Nat) (s : PS) :
    pStar chk input (f + 1) s =
      if s.peek.typ = .rbrace then pure ([], s)
      else pStmt chk input f s >>= fun r => pStar chk input f r.2 >>= fun q => pure (r.1 :: q.1, q.2) := rfl

/-- the body of `parse.Parse` after lexing, on the item list -/
def parseItems (chk : Stmt → Bool) (input : Bytes) (items : List Item) : P (Stmt × PS) := do
  let (st, s1) ← pStmt chk input (items.length + 2) { items := items }
  let (_, s2) ← expectT .eof s1
  pure (st, s2)

theorem parse_of_lex {chk : Stmt → Bool} {fx : Bool} {input : Bytes} {items : List Item}
    (h : lex fx input = some items) :
    parse chk fx input =
      match parseItems chk input items with
      | .ok (st, s) => .ok st s.taken items.length
      | .error (.fuel, _) => .fuel
      | .error (.unexpected pos, tk) => .err (lineCol input pos).1 (lineCol input pos).2 tk items.length
      | .error (.check pos, tk) => .err (lineCol input pos).1 (lineCol input pos).2 tk items.length := by
  simp only [parse, h]; rfl

end YV.Y
