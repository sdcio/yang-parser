/-
  Proofs.YEncX — decoding the XML encoding of a well-formed tree gives the tree back (at the level of XML
  elements: the bytes ↔ elements layer is encoding/xml's).

  Three layers: a node (the elements written for it, read as one group, give it back if its children / the
  children of its entries come back), the siblings (the elements of a parent are the blocks of its nodes; names
  differ, so gathering by name finds each block again and the first occurrences give the order), the tree
  (induction on the reader's fuel).
-/
import YV.Proofs.YEnc
namespace YV.E
open YV YV.Y YV.SC YV.D

variable {τ : Type}

theorem gather_eq_filter (n : Tok) (xs : List X) : gather n xs = xs.filter (elName · = n) := by
  induction xs with
  | nil => rfl
  | cons x r ih =>
    cases x with
    | el m t k =>
      rw [List.filter_cons, ← ih]
      exact ite_congr decide_eq_true_eq.symm (fun _ => rfl) fun _ => rfl

/-- the elements of a parent as blocks, one per data node -/
structure Blocks (blk : DN → List X) (ds : List DN) : Prop where
  named : ∀ d ∈ ds, ∀ x ∈ blk d, elName x = d.name
  nonempty : ∀ d ∈ ds, blk d ≠ []
  distinct : ds.Pairwise fun d e => e.name ≠ d.name

theorem Blocks.tail {blk : DN → List X} {d : DN} {r : List DN} (h : Blocks blk (d :: r)) : Blocks blk r :=
  ⟨fun e he => h.named e (by simp [he]), fun e he => h.nonempty e (by simp [he]), h.distinct.of_cons⟩

theorem Blocks.head_notin {blk : DN → List X} {d : DN} {r : List DN} (h : Blocks blk (d :: r)) :
    ∀ e ∈ r, e.name ≠ d.name :=
  (List.pairwise_cons.1 h.distinct).1

theorem Blocks.rest_ne {blk : DN → List X} {d : DN} {r : List DN} (h : Blocks blk (d :: r)) :
    ∀ x ∈ r.flatMap blk, elName x ≠ d.name := by
  intro x hx
  obtain ⟨e, he, hxe⟩ := List.mem_flatMap.mp hx
  rw [h.named e (by simp [he]) x hxe]
  exact h.head_notin e he

theorem gather_blocks (blk : DN → List X) (ds : List DN) (h : Blocks blk ds) :
    ∀ d ∈ ds, gather d.name (ds.flatMap blk) = blk d := by
  induction ds with
  | nil => exact fun _ hd => nomatch hd
  | cons a r ih =>
    intro d hd
    have ha := h.named a List.mem_cons_self
    rw [List.flatMap_cons, gather_eq_filter, List.filter_append]
    rcases List.mem_cons.mp hd with rfl | hd
    · rw [List.filter_eq_self.2 fun x hx => decide_eq_true (ha x hx),
        List.filter_eq_nil_iff.2 fun x hx hc => h.rest_ne x hx (of_decide_eq_true hc), List.append_nil]
    · rw [List.filter_eq_nil_iff.2 fun x hx hc =>
          h.head_notin d hd ((of_decide_eq_true hc).symm.trans (ha x hx)),
        List.nil_append, ← gather_eq_filter, ih h.tail d hd]

theorem names_blocks (blk : DN → List X) (ds : List DN) (h : Blocks blk ds) :
    ((ds.flatMap blk).map elName).eraseDups = ds.map (·.name) := by
  induction ds with
  | nil => rfl
  | cons a r ih =>
    obtain ⟨x, xs, hb⟩ := List.exists_cons_of_ne_nil (h.nonempty a List.mem_cons_self)
    have ha : ∀ y ∈ blk a, elName y = a.name := h.named a List.mem_cons_self
    rw [hb] at ha
    -- the first element gives the name; the filter of `eraseDups` removes the rest of the block and nothing else
    rw [List.flatMap_cons, hb, List.cons_append, List.map_cons, List.eraseDups_cons, ha x List.mem_cons_self,
      List.map_append, List.filter_append,
      List.filter_eq_nil_iff.2 (List.forall_mem_map.2 fun z hz => by simp [ha z (List.mem_cons_of_mem _ hz)]),
      List.filter_eq_self.2 (List.forall_mem_map.2 fun z hz => by simpa using h.rest_ne z hz),
      List.nil_append, ih h.tail]
    rfl

def xblock (kids : List (SN τ)) : DN → List X
  | .mk n dk vals =>
    match kindOf kids n with
    | .container ck => [X.el n [] (xencKids ck dk)]
    | .list _ ck => xencEntries ck n dk
    | .leaf _ => vals.map fun v => X.el n v []
    | .leafList _ => vals.map fun v => X.el n v []
    | .other => []

theorem xencKids_nil (kids : List (SN τ)) : xencKids kids [] = [] := by rw [xencKids.eq_def]

theorem xencKids_cons (kids : List (SN τ)) (n : Tok) (dk : List DN) (vals : List Bytes) (r : List DN) :
    xencKids kids (.mk n dk vals :: r) = xblock kids (.mk n dk vals) ++ xencKids kids r := by
  rw [xencKids.eq_def]
  unfold xblock kindOf
  dsimp only [DN.name]
  cases lookup n (dataKids kids) with
  | none => rfl
  | some sn => cases sn <;> rfl

theorem xencKids_flatMap (kids : List (SN τ)) (ds : List DN) : xencKids kids ds = ds.flatMap (xblock kids) := by
  induction ds with
  | nil => rw [xencKids_nil]; rfl
  | cons d r ih => obtain ⟨n, dk, vals⟩ := d; rw [xencKids_cons, ih]; rfl

theorem xencEntries_cons (kids : List (SN τ)) (n en : Tok) (ek : List DN) (ev : List Bytes) (r : List DN) :
    xencEntries kids n (.mk en ek ev :: r) = X.el n [] (xencKids kids ek) :: xencEntries kids n r := by
  rw [xencEntries.eq_def]

theorem xencEntries_map (kids : List (SN τ)) (n : Tok) (es : List DN) :
    xencEntries kids n es = es.map fun e => X.el n [] (xencKids kids e.kids) := by
  induction es with
  | nil => rw [xencEntries.eq_def]; rfl
  | cons e r ih => obtain ⟨en, ek, ev⟩ := e; rw [xencEntries_cons, ih]; rfl

theorem xblock_named (kids : List (SN τ)) (d : DN) : ∀ x ∈ xblock kids d, elName x = d.name := by
  obtain ⟨n, dk, vals⟩ := d
  dsimp only [xblock]
  generalize kindOf kids n = k
  cases k with
  | container => exact List.forall_mem_singleton.2 rfl
  | list => dsimp only; rw [xencEntries_map]; exact List.forall_mem_map.2 fun _ _ => rfl
  | leaf => exact List.forall_mem_map.2 fun _ _ => rfl
  | leafList => exact List.forall_mem_map.2 fun _ _ => rfl
  | other => exact fun _ hx => nomatch hx

/-- the reader's treatment of one list entry element -/
def xdecEntry (ck : List (SN τ)) (f : Nat) (key : Tok) (x : X) : Option DN := do
  let ks ← xdecKids ck f (elKids x)
  let kv ← (ks.find? fun (d : DN) => d.name = key).bind fun d => d.vals.head?
  pure (DN.mk kv ks [])

def xdecGroup (kids : List (SN τ)) (fuel : Nat) (n : Tok) (group : List X) : Option DN :=
  match kindOf kids n with
  | .container ck =>
    (match group with
     | [x] => (xdecKids ck fuel (elKids x)).map fun ks => DN.mk n ks []
     | _ => none)
  | .list key ck =>
    (group.mapM (xdecEntry ck fuel key)).bind fun es => if dupEntry es then none else some (DN.mk n es [])
  | .leaf _ =>
    (match group with
     | [x] => some (DN.mk n [] [elText x])
     | _ => none)
  | .leafList _ => some (DN.mk n [] (group.map elText))
  | .other => none

theorem xdecKids_succ (kids : List (SN τ)) (fuel : Nat) (xs : List X) :
    xdecKids kids (fuel + 1) xs =
      ((xs.map elName).eraseDups).mapM fun n => xdecGroup kids fuel n (gather n xs) := by
  -- by computation the left side is `mapM` over the same names; the two functions of a name are compared
  refine congrArg (List.mapM · _) (funext fun n => ?_)
  unfold xdecGroup kindOf
  cases lookup n (dataKids kids) with
  | none => rfl
  | some sn => cases sn <;> rfl

/-! ### well-formed data for the XML writer: sibling names differ, a leaf has one value, a leaf-list and a
    list are not empty (an empty one writes no element at all), list entries are named by their key -/

def keyOf (key : Tok) (ek : List DN) : Option Tok :=
  (ek.find? fun (d : DN) => d.name = key).bind fun d => d.vals.head?

mutual
def xwfKids (kids : List (SN τ)) : List DN → Prop
  | [] => True
  | d :: r =>
    (∀ e ∈ r, e.name ≠ d.name) ∧
    (match lookup d.name (dataKids kids), d with
     | some (.container _ _ ck), .mk _ dk vals => vals = [] ∧ xwfKids ck dk
     | some (.list _ keys _ _ _ ck), .mk _ es vals => vals = [] ∧ es ≠ [] ∧ xwfEntries ck (keys.headD []) es
     | some (.leaf ..), .mk _ dk vals => dk = [] ∧ ∃ v, vals = [v]
     | some (.leafList ..), .mk _ dk vals => dk = [] ∧ vals ≠ []
     | _, _ => False) ∧ xwfKids kids r
def xwfEntries (kids : List (SN τ)) (key : Tok) : List DN → Prop
  | [] => True
  | .mk en ek ev :: r =>
    ev = [] ∧ xwfKids kids ek ∧ keyOf key ek = some en ∧ (∀ e ∈ r, e.name ≠ en) ∧ xwfEntries kids key r
end

theorem xwfKids_nil (kids : List (SN τ)) : xwfKids kids [] = True := by rw [xwfKids.eq_def]

def xwfNode (kids : List (SN τ)) : DN → Prop
  | .mk n dk vals =>
    match kindOf kids n with
    | .container ck => vals = [] ∧ xwfKids ck dk
    | .list key ck => vals = [] ∧ dk ≠ [] ∧ xwfEntries ck key dk
    | .leaf _ => dk = [] ∧ ∃ v, vals = [v]
    | .leafList _ => dk = [] ∧ vals ≠ []
    | .other => False

theorem xwfKids_cons (kids : List (SN τ)) (n : Tok) (dk : List DN) (vals : List Bytes) (r : List DN) :
    xwfKids kids (.mk n dk vals :: r) =
      ((∀ e ∈ r, e.name ≠ n) ∧ xwfNode kids (.mk n dk vals) ∧ xwfKids kids r) := by
  rw [xwfKids.eq_def]
  unfold xwfNode kindOf
  dsimp only [DN.name]
  cases lookup n (dataKids kids) with
  | none => rfl
  | some sn => cases sn <;> rfl

theorem xwfKids_mem {kids : List (SN τ)} {ds : List DN} (h : xwfKids kids ds) : ∀ d ∈ ds, xwfNode kids d := by
  induction ds with
  | nil => exact fun _ hd => nomatch hd
  | cons a r ih =>
    obtain ⟨n, dk, vals⟩ := a
    rw [xwfKids_cons] at h
    exact List.forall_mem_cons.2 ⟨h.2.1, ih h.2.2⟩

theorem xwfKids_distinct {kids : List (SN τ)} {ds : List DN} (h : xwfKids kids ds) :
    ds.Pairwise fun d e => e.name ≠ d.name := by
  induction ds with
  | nil => exact .nil
  | cons a r ih =>
    obtain ⟨n, dk, vals⟩ := a
    rw [xwfKids_cons] at h
    exact List.pairwise_cons.2 ⟨h.1, ih h.2.2⟩

theorem xwfEntries_mem {ck : List (SN τ)} {key : Tok} {es : List DN} (h : xwfEntries ck key es) :
    ∀ e ∈ es, e.vals = [] ∧ xwfKids ck e.kids ∧ keyOf key e.kids = some e.name := by
  induction es with
  | nil => exact fun _ he => nomatch he
  | cons a r ih =>
    obtain ⟨en, ek, ev⟩ := a
    rw [xwfEntries.eq_def] at h
    exact List.forall_mem_cons.2 ⟨⟨h.1, h.2.1, h.2.2.1⟩, ih h.2.2.2.2⟩

/-- entries named by pairwise different key values: no duplicate -/
theorem dupEntry_of_wf (kids : List (SN τ)) (key : Tok) : ∀ es : List DN, xwfEntries kids key es → dupEntry es = false := by
  intro es
  induction es with
  | nil => exact fun _ => rfl
  | cons e r ih =>
    obtain ⟨en, ek, ev⟩ := e
    intro h
    rw [xwfEntries.eq_def] at h
    obtain ⟨_, _, _, hne, hr⟩ := h
    show (r.any (fun e => e.name = en) || dupEntry r) = false
    rw [ih hr, Bool.or_false, List.any_eq_false]
    exact fun e he hc => hne e he (of_decide_eq_true hc)

theorem xblock_ne_nil (kids : List (SN τ)) (d : DN) (h : xwfNode kids d) : xblock kids d ≠ [] := by
  obtain ⟨n, dk, vals⟩ := d
  dsimp only [xwfNode, xblock] at h ⊢
  generalize kindOf kids n = k at h ⊢
  cases k with
  | container => exact List.cons_ne_nil _ _
  | list => dsimp only; rw [xencEntries_map]; exact mt List.map_eq_nil_iff.1 h.2.1
  | leaf => obtain ⟨_, v, rfl⟩ := h; exact List.cons_ne_nil _ _
  | leafList => exact mt List.map_eq_nil_iff.1 h.2
  | other => exact h.elim

/-- from the nodes one by one to the whole list of children -/
theorem xdec_whole (kids : List (SN τ)) (ds : List DN) (f : Nat) (hw : xwfKids kids ds)
    (hall : ∀ d ∈ ds, xdecGroup kids f d.name (xblock kids d) = some d) :
    xdecKids kids (f + 1) (xencKids kids ds) = some ds := by
  have hb : Blocks (xblock kids) ds :=
    ⟨fun e _ => xblock_named kids e, fun e he => xblock_ne_nil kids e (xwfKids_mem hw e he), xwfKids_distinct hw⟩
  rw [xdecKids_succ, xencKids_flatMap, names_blocks _ _ hb]
  exact mapM_map_some ds (·.name) _ fun d hd => by rw [gather_blocks _ _ hb d hd]; exact hall d hd

mutual
def dDepth : DN → Nat
  | .mk _ ks _ => 1 + dDepthL ks
def dDepthL : List DN → Nat
  | [] => 0
  | d :: r => max (dDepth d) (dDepthL r)
end

theorem dDepthL_nil : dDepthL [] = 0 := by rw [dDepthL]

theorem dDepthL_cons (d : DN) (r : List DN) : dDepthL (d :: r) = max (dDepth d) (dDepthL r) := by rw [dDepthL]

theorem dDepthL_single (d : DN) : dDepthL [d] = dDepth d := by
  rw [dDepthL_cons, dDepthL_nil, Nat.max_zero]

theorem dDepthL_append (a b : List DN) : dDepthL (a ++ b) = max (dDepthL a) (dDepthL b) := by
  induction a with
  | nil => rw [List.nil_append, dDepthL_nil, Nat.zero_max]
  | cons x r ih => rw [List.cons_append, dDepthL_cons, dDepthL_cons, ih, Nat.max_assoc]

theorem dDepth_le_of_mem (ds : List DN) (d : DN) (h : d ∈ ds) : dDepth d ≤ dDepthL ds := by
  induction ds with
  | nil => cases h
  | cons a r ih =>
    rw [dDepthL]
    rcases List.mem_cons.mp h with rfl | hr
    · exact Nat.le_max_left _ _
    · exact Nat.le_trans (ih hr) (Nat.le_max_right _ _)

theorem dDepthL_kids_lt {ds : List DN} {d : DN} (h : d ∈ ds) : dDepthL d.kids < dDepthL ds := by
  have := dDepth_le_of_mem ds d h
  obtain ⟨n, dk, vals⟩ := d
  rwa [dDepth, Nat.add_comm] at this

theorem DN.kids_mk (n : Tok) (k : List DN) (v : List Bytes) : (DN.mk n k v).kids = k := rfl

theorem xdecEntry_enc (ck : List (SN τ)) (g : Nat) (key n : Tok) (e : DN)
    (hk : xdecKids ck g (xencKids ck e.kids) = some e.kids) (hv : e.vals = [])
    (hkey : keyOf key e.kids = some e.name) :
    xdecEntry ck g key (X.el n [] (xencKids ck e.kids)) = some e := by
  obtain ⟨en, ek, ev⟩ := e
  cases hv
  unfold keyOf at hkey    -- `xdecEntry`, like the reader, writes this look-up out
  simp only [xdecEntry, elKids, DN.kids_mk] at hk hkey ⊢
  simp only [hk, obind_some, hkey]
  rfl

theorem xdec_entries_of (ck : List (SN τ)) (key n : Tok) (es : List DN) (hw : xwfEntries ck key es) (g : Nat)
    (hsub : ∀ e ∈ es, xdecKids ck g (xencKids ck e.kids) = some e.kids) :
    (es.map fun e => X.el n [] (xencKids ck e.kids)).mapM (xdecEntry ck g key) = some es :=
  mapM_map_some es _ _ fun e he =>
    let ⟨hv, _, hkey⟩ := xwfEntries_mem hw e he
    xdecEntry_enc ck g key n e (hsub e he) hv hkey

/-- **round trip (XML elements).** decoding what the writer produces for the children of a node gives the
    children back — names, values, order — with fuel beyond their depth -/
theorem xdec_kids : ∀ (f : Nat) (kids : List (SN τ)) (ds : List DN), xwfKids kids ds → dDepthL ds < f →
    xdecKids kids f (xencKids kids ds) = some ds := by
  intro f
  induction f with
  | zero => exact fun _ _ _ hf => absurd hf (Nat.not_lt_zero _)
  | succ f ih =>
    intro kids ds hw hf
    refine xdec_whole kids ds f hw fun d hd => ?_
    have hn := xwfKids_mem hw d hd
    have hdep : dDepthL d.kids < f := Nat.lt_of_lt_of_le (dDepthL_kids_lt hd) (Nat.le_of_lt_succ hf)
    obtain ⟨n, dk, vals⟩ := d
    dsimp only [xwfNode, xdecGroup, xblock, DN.name, DN.kids] at hn hdep ⊢
    generalize kindOf kids n = k at hn ⊢
    cases k with
    | container ck =>
      obtain ⟨rfl, hwk⟩ := hn
      exact congrArg (Option.map _) (ih ck dk hwk hdep)
    | list key ck =>
      obtain ⟨rfl, _, hwe⟩ := hn
      dsimp only
      rw [xencEntries_map, xdec_entries_of _ _ n dk hwe f fun e he =>
          ih _ e.kids (xwfEntries_mem hwe e he).2.1 (Nat.lt_trans (dDepthL_kids_lt he) hdep),
        Option.bind_some, dupEntry_of_wf _ _ dk hwe]
      rfl
    | leaf =>
      obtain ⟨rfl, v, rfl⟩ := hn
      rfl
    | leafList =>
      obtain ⟨rfl, _⟩ := hn
      simp only [List.map_map, Function.comp_def, elText, List.map_id']
    | other => exact hn.elim

theorem xdec_entries (ck : List (SN τ)) (key n : Tok) : ∀ (es : List DN), xwfEntries ck key es →
    ∀ (g : Nat), dDepthL es ≤ g →
    (es.map fun e => X.el n [] (xencKids ck e.kids)).mapM (xdecEntry ck g key) = some es :=
  fun es hw g hg => xdec_entries_of ck key n es hw g fun e he =>
    xdec_kids g ck e.kids (xwfEntries_mem hw e he).2.1 (Nat.lt_of_lt_of_le (dDepthL_kids_lt he) hg)

end YV.E
