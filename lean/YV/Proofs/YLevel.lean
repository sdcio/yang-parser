/-
  Proofs.YLevel — the level of a schema body: its flattened child map (`dataKids`, through choices and cases), read
  one node at a time; induction over bodies and the case lists of choices, proved once; look-ups by name.

  Well-formed schema (what the compiler builds): the children of a choice are cases, a case occurs only there,
  the cases of one choice have different names, and the names of the flattened child map of every container /
  list / the root are pairwise different (`addChild`: "redefinition of name").
-/
import YV.Proofs.Forest
namespace YV.SC
open YV YV.Y

variable {τ : Type}

/- `dataKids` / `caseKids` are compiled by well-founded recursion: their equations come from `eq_def` -/
theorem dataKids_nil : dataKids ([] : List (SN τ)) = [] := dataKids.eq_def _
theorem caseKids_nil : caseKids ([] : List (SN τ)) = [] := caseKids.eq_def _

theorem dataKids_cons {x : SN τ} (h : x.isChoice = false) (r : List (SN τ)) : dataKids (x :: r) = x :: dataKids r := by
  cases x with
  | choice => cases h
  | _ => exact dataKids.eq_def _

theorem dataKids_choice (a : Tok) (m : Bool) (d : Option Tok) (cases r : List (SN τ)) :
    dataKids (.choice a m d cases :: r) = caseKids cases ++ dataKids r := dataKids.eq_def _

theorem caseKids_case (a : Tok) (kids r : List (SN τ)) : caseKids (.case a kids :: r) = dataKids kids ++ caseKids r :=
  caseKids.eq_def _

theorem caseKids_cons {x : SN τ} (h : x.isCase = false) (r : List (SN τ)) : caseKids (x :: r) = x :: caseKids r := by
  cases x with
  | case => cases h
  | _ => exact caseKids.eq_def _

/-- induction over schema bodies (`PS`) and the case lists of choices (`PC`): every list of nodes is looked at in
    both roles; the recursion into a node goes through `SN.kids` -/
theorem level_ind {PS PC : List (SN τ) → Prop}
    (nil : PS [])
    (node : ∀ x r, x.isChoice = false → PS x.kids → PS r → PS (x :: r))
    (choice : ∀ a m d cases r, PC cases → PS r → PS (.choice a m d cases :: r))
    (cnil : PC [])
    (case : ∀ a kids r, PS kids → PC r → PC (.case a kids :: r))
    (other : ∀ x r, x.isCase = false → PC r → PC (x :: r)) :
    ∀ l : List (SN τ), PS l ∧ PC l :=
  SN.forest ⟨nil, cnil⟩ fun x r hk hr => by
    constructor
    · cases x with
      | choice a m d c => exact choice a m d c r hk.2 hr.1
      | _ => exact node _ r rfl hk.1 hr.1
    · cases x with
      | case a k => exact case a k r hk.1 hr.2
      | _ => exact other _ r rfl hr.2

/-- without descent into the nodes -/
theorem body_ind {P : List (SN τ) → Prop} (nil : P [])
    (node : ∀ x r, x.isChoice = false → P r → P (x :: r))
    (choice : ∀ a m d cases r, P r → P (.choice a m d cases :: r)) : ∀ l : List (SN τ), P l := by
  intro l
  induction l with
  | nil => exact nil
  | cons x r hr =>
    cases x with
    | choice a m d c => exact choice a m d c r hr
    | _ => exact node _ r rfl hr

theorem cases_ind {P : List (SN τ) → Prop} (nil : P [])
    (case : ∀ a kids r, P r → P (.case a kids :: r))
    (other : ∀ x r, x.isCase = false → P r → P (x :: r)) : ∀ l : List (SN τ), P l := by
  intro l
  induction l with
  | nil => exact nil
  | cons x r hr =>
    cases x with
    | case a k => exact case a k r hr
    | _ => exact other _ r rfl hr

theorem lookup_eq_find? (k : Tok) (l : List (SN τ)) : lookup k l = l.find? (·.name = k) := by
  induction l with
  | nil => rfl
  | cons x r ih => rw [lookup, List.find?_cons, ih]; by_cases h : x.name = k <;> simp [h]

theorem lookup_append (k : Tok) (a b : List (SN τ)) :
    lookup k (a ++ b) = (lookup k a).orElse fun _ => lookup k b := by
  simp only [lookup_eq_find?, List.find?_append, Option.orElse_eq_or]

theorem lookup_mem (l : List (SN τ)) (n : Tok) (sn : SN τ) (h : lookup n l = some sn) : sn ∈ l :=
  List.mem_of_find?_eq_some (lookup_eq_find? n l ▸ h)

theorem lookup_of_nodup : ∀ (l : List (SN τ)), (l.map (·.name)).Nodup → ∀ sn ∈ l, lookup sn.name l = some sn := by
  intro l hnd sn h
  induction l with
  | nil => cases h
  | cons x r ih =>
    rw [List.map_cons, List.nodup_cons] at hnd
    rcases List.mem_cons.mp h with rfl | h'
    · exact if_pos rfl
    · exact (if_neg fun e => hnd.1 (List.mem_map.mpr ⟨sn, h', e.symm⟩)).trans (ih hnd.2 h')

theorem lookup_none_of_notin (l : List (SN τ)) (n : Tok) (h : n ∉ l.map (·.name)) : lookup n l = none := by
  rw [lookup_eq_find?, List.find?_eq_none]
  exact fun x hx e => h (List.mem_map.2 ⟨x, hx, of_decide_eq_true e⟩)

theorem lookup_isSome_of_mem (l : List (SN τ)) (n : Tok) (h : n ∈ l.map (·.name)) : (lookup n l).isSome = true := by
  obtain ⟨x, hx, e⟩ := List.mem_map.1 h
  rw [lookup_eq_find?, List.find?_isSome]
  exact ⟨x, hx, decide_eq_true e⟩

theorem lookup_isSome (l : List (SN τ)) (n : Tok) : (lookup n l).isSome = decide (n ∈ l.map (·.name)) := by
  by_cases h : n ∈ l.map (·.name)
  · rw [lookup_isSome_of_mem l n h, decide_eq_true h]
  · rw [lookup_none_of_notin l n h, decide_eq_false h]; rfl

end YV.SC

namespace YV.DS
open YV YV.Y YV.SC

variable {τ : Type}

def names (nodes : List (SN τ)) : List Tok := (dataKids nodes).map (·.name)
def cnames (cases : List (SN τ)) : List Tok := (caseKids cases).map (·.name)

mutual
/-- a node that may stand in a body -/
def wfN : SN τ → Prop
  | .container _ _ kids => wfL kids ∧ (names kids).Nodup
  | .list _ _ _ _ _ kids => wfL kids ∧ (names kids).Nodup
  | .leaf .. => True
  | .leafList .. => True
  | .choice _ _ _ cases => wfC cases ∧ (cases.map (·.name)).Nodup
  | .case _ _ => False
def wfL : List (SN τ) → Prop
  | [] => True
  | x :: r => wfN x ∧ wfL r
def wfC : List (SN τ) → Prop
  | [] => True
  | .case _ kids :: r => wfL kids ∧ wfC r
  | .container .. :: _ => False
  | .list .. :: _ => False
  | .leaf .. :: _ => False
  | .leafList .. :: _ => False
  | .choice .. :: _ => False
end

mutual
/-- the same, decidable: what the driver checks on every schema it is given -/
def wfNb : SN τ → Bool
  | .container _ _ kids => wfLb kids && decide (names kids).Nodup
  | .list _ _ _ _ _ kids => wfLb kids && decide (names kids).Nodup
  | .leaf .. => true
  | .leafList .. => true
  | .choice _ _ _ cases => wfCb cases && decide (cases.map (·.name)).Nodup
  | .case _ _ => false
def wfLb : List (SN τ) → Bool
  | [] => true
  | x :: r => wfNb x && wfLb r
def wfCb : List (SN τ) → Bool
  | [] => true
  | .case _ kids :: r => wfLb kids && wfCb r
  | .container .. :: _ => false
  | .list .. :: _ => false
  | .leaf .. :: _ => false
  | .leafList .. :: _ => false
  | .choice .. :: _ => false
end

/-- the check of a node is sound if that of its children is -/
theorem wfNb_of_kids {x : SN τ} (hk : (wfLb x.kids = true → wfL x.kids) ∧ (wfCb x.kids = true → wfC x.kids))
    (h : wfNb x = true) : wfN x := by
  cases x with
  | container _ _ kids => have h := Bool.and_eq_true_iff.mp h; exact ⟨hk.1 h.1, of_decide_eq_true h.2⟩
  | list _ _ _ _ _ kids => have h := Bool.and_eq_true_iff.mp h; exact ⟨hk.1 h.1, of_decide_eq_true h.2⟩
  | choice _ _ _ cases => have h := Bool.and_eq_true_iff.mp h; exact ⟨hk.2 h.1, of_decide_eq_true h.2⟩
  | leaf => trivial
  | leafList => trivial
  | case => cases h

theorem wfb_sound : ∀ l : List (SN τ), (wfLb l = true → wfL l) ∧ (wfCb l = true → wfC l) :=
  SN.forest ⟨fun _ => trivial, fun _ => trivial⟩ fun x r hk hr => by
    constructor
    · intro h
      have h := Bool.and_eq_true_iff.mp h
      exact ⟨wfNb_of_kids hk h.1, hr.1 h.2⟩
    · cases x with
      | case _ kids => intro h; have h := Bool.and_eq_true_iff.mp h; exact ⟨hk.1 h.1, hr.2 h.2⟩
      | _ => exact nofun

theorem wfNb_sound : ∀ (sn : SN τ), wfNb sn = true → wfN sn := fun sn => wfNb_of_kids (wfb_sound sn.kids)
theorem wfLb_sound : ∀ (l : List (SN τ)), wfLb l = true → wfL l := fun l => (wfb_sound l).1
theorem wfCb_sound : ∀ (l : List (SN τ)), wfCb l = true → wfC l := fun l => (wfb_sound l).2

def wfTop (top : List (SN τ)) : Bool := wfLb top && decide (names top).Nodup

theorem wfTop_sound {top : List (SN τ)} (h : wfTop top = true) : wfL top ∧ (names top).Nodup := by
  rw [wfTop, Bool.and_eq_true, decide_eq_true_eq] at h
  exact ⟨wfLb_sound top h.1, h.2⟩

@[simp] theorem names_nil : names ([] : List (SN τ)) = [] := congrArg (List.map SN.name) dataKids_nil
@[simp] theorem cnames_nil : cnames ([] : List (SN τ)) = [] := congrArg (List.map SN.name) caseKids_nil

theorem names_cons {x : SN τ} (h : x.isChoice = false) (r : List (SN τ)) : names (x :: r) = x.name :: names r := by
  rw [names, dataKids_cons h]; rfl

theorem names_choice (a : Tok) (b : Bool) (c : Option Tok) (cases r : List (SN τ)) :
    names (.choice a b c cases :: r) = cnames cases ++ names r := by
  rw [names, dataKids_choice, List.map_append]; rfl

theorem cnames_case (a : Tok) (kids r : List (SN τ)) :
    cnames (.case a kids :: r) = names kids ++ cnames r := by
  rw [cnames, caseKids_case, List.map_append]; rfl

theorem cnames_cons {x : SN τ} (h : x.isCase = false) (r : List (SN τ)) : cnames (x :: r) = x.name :: cnames r := by
  rw [cnames, caseKids_cons h]; rfl

theorem nodup_disj {S1 S2 : List Tok} (hnd : (S1 ++ S2).Nodup) {n : Tok} (h1 : n ∈ S1) (h2 : n ∈ S2) : False :=
  (List.nodup_append.mp hnd).2.2 n h1 n h2 rfl
theorem nodup_left {S1 S2 : List Tok} (h : (S1 ++ S2).Nodup) : S1.Nodup := (List.nodup_append.mp h).1
theorem nodup_right {S1 S2 : List Tok} (h : (S1 ++ S2).Nodup) : S2.Nodup := (List.nodup_append.mp h).2.1

/- `wfN` / `wfL` / `wfC` recurse structurally: at a constructor a hypothesis is its unfolding, by definition -/
theorem wfN_kids {x : SN τ} (h : x.isChoice = false) (hw : wfN x) : wfL x.kids ∧ (names x.kids).Nodup := by
  cases x with
  | choice => cases h
  | case => exact hw.elim
  | container _ _ k => exact hw
  | list _ _ _ _ _ k => exact hw
  | leaf => exact ⟨trivial, names_nil ▸ List.nodup_nil⟩
  | leafList => exact ⟨trivial, names_nil ▸ List.nodup_nil⟩

theorem wfC_cons_elim {x : SN τ} (h : x.isCase = false) {r : List (SN τ)} (hw : wfC (x :: r)) : False := by
  cases x with
  | case => cases h
  | _ => exact hw

/-- `level_ind` on a well-formed schema: no case outside a choice, nothing but cases inside -/
theorem wf_ind {PS PC : List (SN τ) → Prop}
    (nil : PS [])
    (node : ∀ x r, x.isChoice = false → wfN x → wfL r → PS x.kids → PS r → PS (x :: r))
    (choice : ∀ a m d cases r, wfC cases → (cases.map (·.name)).Nodup → wfL r → PC cases → PS r →
      PS (.choice a m d cases :: r))
    (cnil : PC [])
    (case : ∀ a kids r, wfL kids → wfC r → PS kids → PC r → PC (.case a kids :: r)) :
    (∀ l, wfL l → PS l) ∧ (∀ l, wfC l → PC l) :=
  have h := level_ind (PS := fun l => wfL l → PS l) (PC := fun l => wfC l → PC l) (fun _ => nil)
    (fun x r hx ihk ihr hw => node x r hx hw.1 hw.2 (ihk (wfN_kids hx hw.1).1) (ihr hw.2))
    (fun a m d cs r ihc ihr hw => choice a m d cs r hw.1.1 hw.1.2 hw.2 (ihc hw.1.1) (ihr hw.2))
    (fun _ => cnil)
    (fun a kids r ihk ihr hw => case a kids r hw.1 hw.2 (ihk hw.1) (ihr hw.2))
    (fun _ _ hx _ hw => (wfC_cons_elim hx hw).elim)
  ⟨fun l => (h l).1, fun l => (h l).2⟩

theorem level_forall {Q : SN τ → Prop}
    (step : ∀ x : SN τ, x.isChoice = false → wfN x → (∀ y ∈ dataKids x.kids, Q y) → Q x) :
    (∀ l : List (SN τ), wfL l → ∀ x ∈ dataKids l, Q x) ∧ (∀ l : List (SN τ), wfC l → ∀ x ∈ caseKids l, Q x) := by
  apply wf_ind
  · intro x h; rw [dataKids_nil] at h; cases h
  · intro x r hx hw _ ihk ihr y hy
    rw [dataKids_cons hx] at hy
    rcases List.mem_cons.mp hy with rfl | hy
    · exact step y hx hw ihk
    · exact ihr y hy
  · intro a m d cases r _ _ _ ihc ihr y hy
    rw [dataKids_choice] at hy
    exact (List.mem_append.mp hy).elim (ihc y) (ihr y)
  · intro x h; rw [caseKids_nil] at h; cases h
  · intro a kids r _ _ ihk ihr y hy
    rw [caseKids_case] at hy
    exact (List.mem_append.mp hy).elim (ihk y) (ihr y)

theorem wfN_of_mem_dataKids : ∀ (nodes : List (SN τ)), wfL nodes → ∀ sn ∈ dataKids nodes, wfN sn :=
  (level_forall (Q := wfN) fun _ _ hw _ => hw).1
theorem wfN_of_mem_caseKids : ∀ (cases : List (SN τ)), wfC cases → ∀ sn ∈ caseKids cases, wfN sn :=
  (level_forall (Q := wfN) fun _ _ hw _ => hw).2

end YV.DS
