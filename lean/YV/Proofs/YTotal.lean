/-
  Proofs.YTotal — the fuel `parse` gives the statement parser always suffices: every step that recurses has
  received at least one item from the lexer, so no item list can make the parser run out (`.fuel` is
  unreachable), for accepted and rejected texts alike.  The invariant `Fine s k` says both things at once: the
  result is no fuel error, and a state it returns is at least `k` items shorter than `s`.
-/
import YV.Proofs.YParseEq
import YV.Proofs.YLex
namespace YV.Y

theorem nextNS_le (s : PS) : (nextNS s).2.items.length ≤ s.items.length := by
  rw [(nextNS_vis s).2]
  exact Nat.le_trans (List.tail_sublist _).length_le (length_vis_le _)

theorem nextNS_lt {s : PS} {t : ITyp} (h : s.peek.typ = t) (ht : t ≠ .eof) :
    (nextNS s).2.items.length + 1 ≤ s.items.length := by
  obtain ⟨rest, hr⟩ := vis_of_peek (h ▸ ht)
  have := length_vis_le s.items
  rw [(nextNS_vis s).2, hr] at *
  simpa using this

/-- `k` is a lower bound on the items a successful run takes from `s`: 1 for `expectT` (other than of EOF),
    0 for an argument, which may be absent, and for `pStar`, 1 for `stmtTail` (the delimiter), hence 2 for
    `pStmt` (keyword and delimiter).  It is what lets the caller give the next call one unit of fuel less. -/
def Fine {α} (s : PS) (k : Nat) : P (α × PS) → Prop
  | .ok (_, s') => s'.items.length + k ≤ s.items.length
  | .error (e, _) => e ≠ .fuel

theorem Fine.fail {α} {s : PS} {k : Nat} (s' : PS) : Fine s k (s'.fail : P (α × PS)) := by simp [Fine, PS.fail]

theorem Fine.pure {α} {s s' : PS} {k : Nat} (a : α) (h : s'.items.length + k ≤ s.items.length) : Fine s k (pure (a, s')) := h

/-- each branch with what the test says: the proofs below follow the parser's `if`s with it -/
theorem Fine.ite {α} {s : PS} {k : Nat} {c : Prop} [Decidable c] {x y : P (α × PS)} (hx : c → Fine s k x)
    (hy : ¬ c → Fine s k y) : Fine s k (if c then x else y) := by
  split
  · exact hx ‹_›
  · exact hy ‹_›

theorem Fine.check {α} {s s' : PS} {k : Nat} (c : Bool) (a : α) (pos n : Nat) (h : s'.items.length + k ≤ s.items.length) :
    Fine s k (if c then Pure.pure (a, s') else .error (.check pos, n)) :=
  .ite (fun _ => h) fun _ => nofun

/-- the continuation runs on the state the first step leaves, and may use how much shorter that is -/
theorem Fine.bind {α β} {s s0 : PS} {k1 k : Nat} {x : P (α × PS)} {g : α × PS → P (β × PS)} (hx : Fine s k1 x)
    (hg : ∀ p : α × PS, p.2.items.length + k1 ≤ s.items.length → Fine s0 k (g p)) : Fine s0 k (x >>= g) := by
  match x, hx with
  | .error (e, _), hx => exact hx
  | .ok p, hx => exact hg p hx

theorem Fine.mono {α} {s s1 : PS} {k k1 : Nat} {r : P (α × PS)} (h : Fine s1 k1 r) (hk : s1.items.length + k ≤ s.items.length + k1) :
    Fine s k r := by
  match r, h with
  | .error (e, _), h => exact h
  | .ok (a, s'), h =>
    exact Nat.le_of_add_le_add_right <| calc
      s'.items.length + k + k1 = s'.items.length + k1 + k := Nat.add_right_comm ..
      _ ≤ s1.items.length + k := Nat.add_le_add_right h k
      _ ≤ s.items.length + k1 := hk

/-- a recursive call with fuel `f` on a state shorter than `s`, which fits `f + 1`: it has fuel enough, and what it
    leaves is shorter than `s` as well -/
theorem Fine.call {α} {f : Nat} {g : PS → P (α × PS)} {s s1 : PS}
    (ih : ∀ s1 : PS, s1.items.length + 1 ≤ f → Fine s1 0 (g s1)) (hf : s.items.length + 1 ≤ f + 1)
    (h : s1.items.length + 1 ≤ s.items.length) : Fine s 0 (g s1) :=
  (ih s1 (Nat.le_trans h (Nat.le_of_succ_le_succ hf))).mono (Nat.le_of_succ_le h)

theorem expectT_fine0 (t : ITyp) (s : PS) : Fine s 0 (expectT t s) := by
  rw [expectT_eq]
  exact .ite (fun _ => .pure _ (nextNS_le s)) fun _ => .fail _

theorem expectT_fine (t : ITyp) (ht : t ≠ .eof) (s : PS) : Fine s 1 (expectT t s) := by
  rw [expectT_eq, (nextNS_vis s).1]
  exact .ite (fun h => .pure _ (nextNS_lt h ht)) fun _ => .fail _

theorem argQC_fine (input : Bytes) (f : Nat) :
    (∀ s : PS, s.items.length + 1 ≤ f → Fine s 0 (argQuoted input f s)) ∧
    (∀ s : PS, s.items.length + 1 ≤ f → Fine s 0 (argConcat input f s)) := by
  induction f with
  | zero => exact ⟨fun _ h => absurd h (Nat.not_succ_le_zero _), fun _ h => absurd h (Nat.not_succ_le_zero _)⟩
  | succ f ih =>
    obtain ⟨ihQ, ihC⟩ := ih
    refine ⟨fun s hf => ?_, fun s hf => ?_⟩
    · rw [argQuoted_succ]
      refine .ite (fun h1 => ?_) fun _ => .ite (fun h2 => ?_) fun _ => .fail _
      · refine (expectT_fine .quote nofun _).bind fun q hq => ?_
        have hqs := Nat.le_trans hq (Nat.le_of_succ_le (nextNS_lt h1 nofun))
        exact (Fine.call ihC hf hqs).bind fun m hm => .pure _ hm
      · exact .call ihC hf (nextNS_lt h2 nofun)
    · rw [argConcat_succ]
      refine .ite (fun _ => .pure _ (Nat.le_refl _)) fun _ => .ite (fun h2 => ?_) fun _ => .fail _
      refine (expectT_fine .quote nofun _).bind fun q hq => ?_
      exact .call ihQ hf (Nat.le_trans hq (Nat.le_of_succ_le (nextNS_lt h2 nofun)))

theorem argument_fine (input : Bytes) (s : PS) : Fine s 0 (argument input s) := by
  rw [argument_eq]
  refine .ite (fun _ => .pure _ (Nat.le_refl _)) fun _ => .ite (fun _ => .pure _ (nextNS_le s)) fun _ =>
    .ite (fun h3 => ?_) fun _ => .fail _
  exact .call (argQC_fine input _).1 (Nat.le_add_right _ 2) (nextNS_lt h3 nofun)

theorem stmtTail_fine (chk : Stmt → Bool) (input : Bytes) (f : Nat) (id : Item) (arg : Bytes) (s2 : PS)
    (ih : ∀ s : PS, s.items.length + 2 ≤ f → Fine s 0 (pStar chk input f s)) (hf : s2.items.length + 1 ≤ f) :
    Fine s2 1 (stmtTail chk input f id arg s2) := by
  rw [stmtTail, (nextNS_vis s2).1]
  refine .ite (fun h1 => .check _ _ _ _ (nextNS_lt h1 nofun)) fun _ => .ite (fun h2 => ?_) fun _ => .fail _
  have hn := nextNS_lt h2 nofun
  refine (ih _ (Nat.le_trans (Nat.succ_le_succ hn) hf)).bind fun r hr => ?_
  refine (expectT_fine .rbrace nofun r.2).bind fun q hq => ?_
  exact .check _ _ _ _ (Nat.le_trans hq (Nat.le_trans hr (Nat.le_of_succ_le hn)))

/-- `pStmt` needs one unit of fuel more than there are items, `pStar` two: `pStar (f + 1)` calls `pStmt f` on the
    same state, and then itself on one two items shorter; `pStmt (f + 1)` calls `pStar f` after keyword and
    opening brace are gone.  `parse` gives the number of items plus two. -/
theorem pStmtStar_fine (chk : Stmt → Bool) (input : Bytes) (f : Nat) :
    (∀ s : PS, s.items.length + 1 ≤ f → Fine s 2 (pStmt chk input f s)) ∧
    (∀ s : PS, s.items.length + 2 ≤ f → Fine s 0 (pStar chk input f s)) := by
  induction f with
  | zero => exact ⟨fun _ h => absurd h (Nat.not_succ_le_zero _), fun _ h => absurd h (Nat.not_succ_le_zero _)⟩
  | succ f ih =>
    obtain ⟨ihS, ihT⟩ := ih
    refine ⟨fun s hf => ?_, fun s hf => ?_⟩
    · rw [pStmt_succ]
      refine (expectT_fine .string nofun s).bind fun r hr => (argument_fine input r.2).bind fun a ha => ?_
      have has : a.2.items.length + 1 ≤ s.items.length := Nat.le_trans (Nat.succ_le_succ ha) hr
      exact (stmtTail_fine chk input f r.1 a.1 a.2 ihT (Nat.le_trans has (Nat.le_of_succ_le_succ hf))).mono
        (Nat.succ_le_succ has)
    · have hsf : s.items.length + 1 ≤ f := Nat.le_of_succ_le_succ hf
      rw [pStar_succ]
      refine .ite (fun _ => .pure _ (Nat.le_refl _)) fun _ => (ihS s hsf).bind fun r hr => ?_
      refine (ihT r.2 (Nat.le_trans hr (Nat.le_of_succ_le hsf))).bind fun q hq => ?_
      exact .pure _ (Nat.le_trans hq (Nat.le_of_add_right_le hr))

theorem parseItems_fine (chk : Stmt → Bool) (input : Bytes) (items : List Item) :
    Fine { items := items } 0 (parseItems chk input items) := by
  refine ((pStmtStar_fine chk input _).1 _ (Nat.le_succ _)).bind fun r hr => ?_
  exact (expectT_fine0 .eof r.2).bind fun q hq => Fine.pure _ (Nat.le_trans hq (Nat.le_of_add_right_le hr))

/-- whichever lexer feeds it, `parse` does not run out of fuel: it reports that the lexer spins, or returns a
    tree or a located error -/
theorem parse_cases (chk : Stmt → Bool) (fx : Bool) (input : Bytes) :
    (lex fx input = none ∧ parse chk fx input = .diverge) ∨
    (∃ root taken total, parse chk fx input = .ok root taken total) ∨
    (∃ l c taken total, parse chk fx input = .err l c taken total) := by
  cases hl : lex fx input with
  | none => exact .inl ⟨rfl, by simp only [parse, hl]⟩
  | some items =>
    have hnf := parseItems_fine chk input items
    rw [parse_of_lex hl]
    generalize parseItems chk input items = r at hnf
    rcases r with ⟨e, n⟩ | ⟨st, s⟩
    · cases e with
      | fuel => exact absurd rfl hnf
      | unexpected pos => exact .inr (.inr ⟨_, _, _, _, rfl⟩)
      | check pos => exact .inr (.inr ⟨_, _, _, _, rfl⟩)
    · exact .inr (.inl ⟨_, _, _, rfl⟩)

/-- `parse` never runs out of fuel and never diverges: it returns a tree or a located error -/
theorem parse_total (chk : Stmt → Bool) (input : Bytes) :
    (∃ root taken total, parse chk true input = .ok root taken total) ∨
    (∃ l c taken total, parse chk true input = .err l c taken total) := by
  rcases parse_cases chk true input with ⟨h, _⟩ | h
  · obtain ⟨l, hl, _⟩ := lex_total input
    rw [hl] at h; cases h
  · exact h

end YV.Y
