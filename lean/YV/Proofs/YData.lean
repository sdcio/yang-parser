/-
  Proofs.YData — the five mandatory-node functions of schema/validate.go together report exactly what the
  one-recursion specification requires; cardinality; explicit data is kept by the decoration; what the
  specification of the defaults emits, read one node at a time.
-/
import YV.Spec.YDataS
import YV.Proofs.YLevel
namespace YV.DS
open YV YV.Y YV.SC YV.D

variable {τ : Type}

/-- below an absent container nothing is configured: `hasMandatoryChildren` = the specification with an
    empty configuration (same errors, same order) -/
theorem hasMandKids_eq (path : List Tok) (kids : List (SN τ)) : hasMandKids path kids = required [] path kids := by
  induction kids using SN.forest generalizing path with
  | nil => rw [hasMandKids.eq_def, required.eq_def]
  | cons x r ihk ihr =>
    rw [hasMandKids.eq_def, required.eq_def]
    cases x with
    | container n pr k =>
      have hk : ∀ path, hasMandKids path k = required [] path k := ihk
      cases pr <;> simp [ihr, hk]
    | choice => simp [ihr, activeCases]
    | _ => simp [ihr]

theorem perm_ite {α : Type} {c : Bool} {A A' : List α} (B : List α) (h : A.Perm A') :
    (if c then A else B).Perm (if c then A' else B) := by
  cases c
  · exact .refl B
  · exact h

/-- one node's errors `A` in front of the rest: found by the first walk (`M`) or by the second (`C`) -/
theorem perm_first {α : Type} {A A' M C R : List α} (hA : A.Perm A') (h : (M ++ C).Perm R) :
    ((A ++ M) ++ C).Perm (A' ++ R) :=
  List.append_assoc .. ▸ hA.append h
theorem perm_second {α : Type} {A A' M C R : List α} (hA : A.Perm A') (h : (M ++ C).Perm R) :
    (M ++ (A ++ C)).Perm (A' ++ R) :=
  List.perm_append_comm_assoc .. |>.trans (hA.append h)

/-- `checkMandatory` + `choiceHasMandatory` (+ the functions they call) report the errors the specification
    requires, in another order: a node that is not a choice is looked at by `checkMandatory`, a choice by
    `choiceHasMandatory`, the specification looks at both where they stand -/
theorem perm_mand : ∀ l : List (SN τ),
    (∀ cfg path, (missingOf cfg path l ++ choiceHasMand cfg path l).Perm (required cfg path l)) ∧
    (∀ cfg path, (caseHasMand cfg path l).Perm (requiredCases cfg path l)) := by
  apply level_ind
  · intro cfg path; rw [choiceHasMand.eq_def, required.eq_def]; exact .refl []
  · intro x r hx _ ihr cfg path
    rw [choiceHasMand.eq_def, required.eq_def]
    cases x with
    | choice => cases hx
    | case => exact ihr cfg path
    | container n pr k => exact perm_first (perm_ite [] (.of_eq (hasMandKids_eq (path ++ [n]) k))) (ihr cfg path)
    | _ => exact perm_first (.refl _) (ihr cfg path)
  · intro a m d cases r ihc ihr cfg path
    rw [choiceHasMand.eq_def, required.eq_def]
    exact perm_second (perm_ite _ (ihc cfg path)) (ihr cfg path)
  · intro cfg path; rw [caseHasMand.eq_def, requiredCases.eq_def]
  · intro a kids r ihk ihr cfg path
    rw [caseHasMand.eq_def, requiredCases.eq_def]
    exact (perm_ite [] (ihk cfg path)).append (ihr cfg path)
  · intro x r hx ihr cfg path
    rw [caseHasMand.eq_def, requiredCases.eq_def]
    cases x with
    | case => cases hx
    | _ => exact ihr cfg path

theorem mem_caseHasMand (cfg path : List Tok) (e : DErr) :
    ∀ cases : List (SN τ), e ∈ caseHasMand cfg path cases ↔ e ∈ requiredCases cfg path cases :=
  fun cases => ((perm_mand cases).2 cfg path).mem_iff

theorem mem_checkMand_iff (kids : List (SN τ)) (cfg path : List Tok) (e : DErr) :
    e ∈ checkMand kids cfg path ↔ e ∈ required cfg path kids :=
  ((perm_mand kids).1 cfg path).mem_iff

/-- the test `min > 0` of the code is implied by `len < min` -/
theorem pos_and_lt (mn len : Nat) : (decide (mn > 0) && decide (len < mn)) = decide (len < mn) := by
  by_cases h : len < mn
  · rw [decide_eq_true h, decide_eq_true (Nat.zero_lt_of_lt h)]; rfl
  · rw [decide_eq_false h, Bool.and_false]

theorem cardBad_eq (mn : Nat) (mx : Option Nat) (len : Nat) (h : mx ≠ some 0) :
    cardBad mn mx len = cardViolated mn mx len := by
  unfold cardBad cardViolated
  cases mx with
  | none => exact (pos_and_lt mn len).trans (Bool.or_false _).symm
  | some m =>
    show (_ || (decide (m > 0) && _)) = _
    rw [pos_and_lt, decide_eq_true (Nat.pos_of_ne_zero fun e => h (e ▸ rfl)), Bool.true_and]

mutual
/-- the part of a decorated tree that lies where the nodes of the original tree lie: the first
    `|children|` children at every level -/
def restrictTo : DN → DN → DN
  | .mk n ks' v, .mk _ ks _ => .mk n (restrictList ks' ks) v
def restrictList : List DN → List DN → List DN
  | k' :: r', k :: r => restrictTo k' k :: restrictList r' r
  | [], _ :: _ => []
  | _, [] => []
end

theorem restrictList_append (a b : List DN) : ∀ (ds : List DN), a.length = ds.length →
    restrictList (a ++ b) ds = restrictList a ds := by
  induction a with
  | nil => intro ds h; cases ds with
    | nil => cases b <;> rfl
    | cons d r => cases h
  | cons x a ih =>
    intro ds h
    cases ds with
    | nil => cases h
    | cons d r => exact congrArg (restrictTo x d :: ·) (ih r (Nat.succ.inj h))

/- the walks of the decoration are compiled by well-founded recursion: they are unfolded with `eq_def` -/
theorem decorateEach_length (kids : List (SN τ)) (ds : List DN) : (decorateEach kids ds).length = ds.length := by
  induction ds with
  | nil => rw [decorateEach.eq_def]
  | cons d r ih => rw [decorateEach.eq_def]; exact congrArg (· + 1) ih

theorem decorateEntries_length (kids : List (SN τ)) : ∀ ds : List DN, (decorateEntries kids ds).length = ds.length := by
  intro ds
  induction ds with
  | nil => rw [decorateEntries.eq_def]
  | cons d r ih => cases d; rw [decorateEntries.eq_def]; exact congrArg (· + 1) ih

/-- the three walks of the decoration call one another (a node decorates its children or its entries, both decorate
    nodes), and an undecorated node needs `restrictList ds ds = ds`: one induction over the data forest for all four -/
theorem restrict_forest : ∀ ds : List DN,
    (∀ kids : List (SN τ), restrictList (decorateEach kids ds) ds = ds ∧ restrictList (decorateEntries kids ds) ds = ds) ∧
    restrictList ds ds = ds ∧ ∀ d ∈ ds, ∀ sn : SN τ, restrictTo (decorateNode sn d) d = d := by
  apply DN.forest_mk
  · exact ⟨fun _ => ⟨by rw [decorateEach.eq_def]; rfl, by rw [decorateEntries.eq_def]; rfl⟩, rfl, fun _ h => nomatch h⟩
  · intro n k v r hk hr
    have hkids : ∀ kids : List (SN τ), restrictList (decorateKids kids k) k = k := fun kids => by
      rw [decorateKids.eq_def, restrictList_append _ _ _ (decorateEach_length kids k), (hk.1 kids).1]
    have hnode : ∀ sn : SN τ, restrictTo (decorateNode sn (.mk n k v)) (.mk n k v) = .mk n k v := fun sn => by
      rw [decorateNode.eq_def]
      cases sn with
      | container _ _ kids => exact congrArg (DN.mk n · v) (hkids kids)
      | list _ _ _ _ _ kids => exact congrArg (DN.mk n · v) (hk.1 kids).2
      | _ => exact congrArg (DN.mk n · v) hk.2.1
    refine ⟨fun kids => ⟨?_, ?_⟩, ?_, ?_⟩
    · rw [decorateEach.eq_def]
      refine List.cons_eq_cons.mpr ⟨?_, (hr.1 kids).1⟩
      cases lookup (DN.mk n k v).name (dataKids kids) with
      | none => exact congrArg (DN.mk n · v) hk.2.1
      | some sn => exact hnode sn
    · rw [decorateEntries.eq_def]
      exact List.cons_eq_cons.mpr ⟨congrArg (DN.mk n · v) (hkids kids), (hr.1 kids).2⟩
    · exact List.cons_eq_cons.mpr ⟨congrArg (DN.mk n · v) hk.2.1, hr.2.1⟩
    · exact List.forall_mem_cons.mpr ⟨hnode, hr.2.2⟩

theorem restrict_decorateNode : ∀ (sn : SN τ) (d : DN), restrictTo (decorateNode sn d) d = d :=
  fun sn d => (restrict_forest [d]).2.2 d (List.mem_singleton.mpr rfl) sn
theorem restrict_decorateEach (kids : List (SN τ)) : ∀ ds : List DN, restrictList (decorateEach kids ds) ds = ds :=
  fun ds => ((restrict_forest ds).1 kids).1
theorem restrict_decorateEntries (kids : List (SN τ)) : ∀ es : List DN, restrictList (decorateEntries kids es) es = es :=
  fun es => ((restrict_forest es).1 kids).2

/-- explicit data is never altered: it sits, unchanged in names, values and order, at the front of every
    child list of the decorated tree -/
theorem restrict_decorate (top : List (SN τ)) (root : DN) : restrictTo (decorate top root) root = root := by
  cases root with
  | mk n dk v =>
    simp only [decorate, restrictTo]
    rw [decorateKids.eq_def, restrictList_append _ _ _ (decorateEach_length top dk), restrict_decorateEach top dk]

theorem mem_dataKids_append_case {x : SN τ} {a b : List (SN τ)} : x ∈ a ++ b ↔ x ∈ a ∨ x ∈ b := List.mem_append

/-- the default instance of a data node: the specification's side of `createDefault` -/
def inst : SN τ → List DN
  | .leaf n _ (some dv) false => [.mk n [] [dv]]
  | .container n false kids => if (defaultsS [] kids).isEmpty then [] else [.mk n (defaultsS [] kids) []]
  | _ => []

/-- the two kinds of node that have a default instance -/
theorem mem_inst {x : SN τ} {d : DN} (h : d ∈ inst x) :
    (∃ n t dv, x = .leaf n t (some dv) false ∧ d = .mk n [] [dv]) ∨
    ∃ n kids, x = .container n false kids ∧ d = .mk n (defaultsS [] kids) [] := by
  unfold inst at h
  split at h
  · exact .inl ⟨_, _, _, rfl, List.mem_singleton.mp h⟩
  · exact .inr ⟨_, _, rfl, List.mem_singleton.mp (List.mem_ite_nil_left.mp h).2⟩
  · cases h

theorem inst_name {x : SN τ} {d : DN} (h : d ∈ inst x) : d.name = x.name := by
  rcases mem_inst h with ⟨_, _, _, rfl, rfl⟩ | ⟨_, _, rfl, rfl⟩ <;> rfl

theorem defaultsS_nil (cfg : List Tok) : defaultsS cfg ([] : List (SN τ)) = [] := defaultsS.eq_def _ _

theorem defaultsS_cons {x : SN τ} (h : x.isChoice = false) (cfg : List Tok) (r : List (SN τ)) :
    defaultsS cfg (x :: r) = (if cfg.contains x.name then [] else inst x) ++ defaultsS cfg r := by
  rw [defaultsS.eq_def]
  cases x with
  | choice => cases h
  | leaf n t d m =>
    -- both sides are tests on `d`, `m` and `cfg.contains n`
    show _ = (if cfg.contains n then [] else _) ++ _
    dsimp only
    generalize cfg.contains n = c
    cases d <;> cases m <;> cases c <;> rfl
  | container n p k =>
    show _ = (if cfg.contains n then [] else _) ++ _
    dsimp only
    generalize cfg.contains n = c
    cases p <;> cases c <;> rfl
  | _ => dsimp only [inst]; rw [ite_self, List.nil_append]

theorem defaultsS_choice (cfg : List Tok) (a : Tok) (m : Bool) (d : Option Tok) (cases r : List (SN τ)) :
    defaultsS cfg (.choice a m d cases :: r) =
      (if activeCases cases cfg then defaultsActive cfg cases
       else match d with
         | some dc => defaultsOfCase dc cases
         | none => []) ++ defaultsS cfg r :=
  defaultsS.eq_def _ _

theorem defaultsActive_nil (cfg : List Tok) : defaultsActive cfg ([] : List (SN τ)) = [] := defaultsActive.eq_def _ _
theorem defaultsActive_case (cfg : List Tok) (a : Tok) (kids r : List (SN τ)) :
    defaultsActive cfg (.case a kids :: r) =
      (if active kids cfg then defaultsS cfg kids else []) ++ defaultsActive cfg r := defaultsActive.eq_def _ _
theorem defaultsActive_cons {x : SN τ} (h : x.isCase = false) (cfg : List Tok) (r : List (SN τ)) :
    defaultsActive cfg (x :: r) = defaultsActive cfg r := by
  cases x with
  | case => cases h
  | _ => exact defaultsActive.eq_def _ _

theorem defaultsOfCase_nil (dc : Tok) : defaultsOfCase dc ([] : List (SN τ)) = [] := defaultsOfCase.eq_def _ _
theorem defaultsOfCase_case (dc a : Tok) (kids r : List (SN τ)) :
    defaultsOfCase dc (.case a kids :: r) = if a = dc then defaultsS [] kids else defaultsOfCase dc r :=
  defaultsOfCase.eq_def _ _
theorem defaultsOfCase_cons {x : SN τ} (h : x.isCase = false) (dc : Tok) (r : List (SN τ)) :
    defaultsOfCase dc (x :: r) = defaultsOfCase dc r := by
  cases x with
  | case => cases h
  | _ => exact defaultsOfCase.eq_def _ _

/-- everything in `out` is the default instance of a node of `L` whose name is not in `cfg` -/
def Emits (L : List (SN τ)) (cfg : List Tok) (out : List DN) : Prop :=
  ∀ d ∈ out, ∃ x ∈ L, d ∈ inst x ∧ cfg.contains x.name = false

theorem Emits.nil (L : List (SN τ)) (cfg : List Tok) : Emits L cfg [] := fun _ h => nomatch h
theorem Emits.append {L1 L2 : List (SN τ)} {cfg : List Tok} {o1 o2 : List DN} (h1 : Emits L1 cfg o1) (h2 : Emits L2 cfg o2) :
    Emits (L1 ++ L2) cfg (o1 ++ o2) := by
  intro d hd
  rcases List.mem_append.mp hd with hd | hd
  · obtain ⟨x, hx, h⟩ := h1 d hd; exact ⟨x, List.mem_append_left _ hx, h⟩
  · obtain ⟨x, hx, h⟩ := h2 d hd; exact ⟨x, List.mem_append_right _ hx, h⟩
theorem Emits.mono {L L' : List (SN τ)} {cfg : List Tok} {out : List DN} (h : Emits L cfg out) (hs : ∀ x ∈ L, x ∈ L') :
    Emits L' cfg out :=
  fun d hd => (h d hd).imp fun x hx => ⟨hs x hx.1, hx.2⟩

theorem Emits.ite {L : List (SN τ)} {cfg : List Tok} {c : Prop} [Decidable c] {o1 o2 : List DN}
    (h1 : c → Emits L cfg o1) (h2 : ¬c → Emits L cfg o2) : Emits L cfg (if c then o1 else o2) := by
  by_cases h : c
  · rw [if_pos h]; exact h1 h
  · rw [if_neg h]; exact h2 h

/-- what the specification emits at a level — below a parent, in the active cases of a choice, in its default case —
    are default instances of nodes of that level that are not configured -/
theorem defaults_emit : ∀ l : List (SN τ), (∀ cfg, Emits (dataKids l) cfg (defaultsS cfg l)) ∧
    ((∀ cfg, Emits (caseKids l) cfg (defaultsActive cfg l)) ∧ ∀ dc, Emits (caseKids l) [] (defaultsOfCase dc l)) :=
  level_ind
    (fun cfg => by rw [defaultsS_nil]; exact Emits.nil _ _)
    (fun x r hx _ ihr cfg => by
      rw [defaultsS_cons hx, dataKids_cons hx]
      exact Emits.append (L1 := [x])
        (Emits.ite (fun _ => Emits.nil _ _) fun hc d hd => ⟨x, List.mem_singleton.mpr rfl, hd, Bool.eq_false_iff.mpr hc⟩)
        (ihr cfg))
    (fun a m d cases r ihc ihr cfg => by
      rw [defaultsS_choice, dataKids_choice]
      refine Emits.append (Emits.ite (fun _ => ihc.1 cfg) fun hna => ?_) (ihr cfg)
      cases d with
      | none => exact Emits.nil _ _
      | some dc =>
        intro e he
        obtain ⟨x, hx, hi, _⟩ := ihc.2 dc e he
        exact ⟨x, hx, hi, Bool.eq_false_iff.mpr fun hc => hna (List.any_eq_true.mpr ⟨x, hx, hc⟩)⟩)
    ⟨fun cfg => by rw [defaultsActive_nil]; exact Emits.nil _ _,
     fun dc => by rw [defaultsOfCase_nil]; exact Emits.nil _ _⟩
    (fun a kids r ihk ihr => by
      constructor
      · intro cfg
        rw [defaultsActive_case, caseKids_case]
        exact Emits.append (Emits.ite (fun _ => ihk cfg) fun _ => Emits.nil _ _) (ihr.1 cfg)
      · intro dc
        rw [defaultsOfCase_case, caseKids_case]
        exact Emits.ite (fun _ => (ihk []).mono fun _ => List.mem_append_left _)
          fun _ => (ihr.2 dc).mono fun _ => List.mem_append_right _)
    (fun x r hx ihr => by
      constructor
      · intro cfg; rw [defaultsActive_cons hx, caseKids_cons hx]
        exact (ihr.1 cfg).mono fun _ => List.mem_cons_of_mem _
      · intro dc; rw [defaultsOfCase_cons hx, caseKids_cons hx]
        exact (ihr.2 dc).mono fun _ => List.mem_cons_of_mem _)

/-- every default the specification instantiates is the default of a data node of that parent -/
theorem defaultsS_names (cfg : List Tok) (x : DN) :
    ∀ kids : List (SN τ), x ∈ defaultsS cfg kids → ∃ n ∈ dataKids kids, n.name = x.name :=
  fun kids h => ((defaults_emit kids).1 cfg x h).imp fun _ hn => ⟨hn.1, (inst_name hn.2.1).symm⟩
theorem defaultsActive_names (cfg : List Tok) (x : DN) :
    ∀ cases : List (SN τ), x ∈ defaultsActive cfg cases → ∃ n ∈ caseKids cases, n.name = x.name :=
  fun cases h => ((defaults_emit cases).2.1 cfg x h).imp fun _ hn => ⟨hn.1, (inst_name hn.2.1).symm⟩
theorem defaultsOfCase_names (dc : Tok) (x : DN) :
    ∀ cases : List (SN τ), x ∈ defaultsOfCase dc cases → ∃ n ∈ caseKids cases, n.name = x.name :=
  fun cases h => ((defaults_emit cases).2.2 dc x h).imp fun _ hn => ⟨hn.1, (inst_name hn.2.1).symm⟩

/-- a default is only ever added for a node that is absent -/
theorem defaultsS_absent (cfg : List Tok) (x : DN) :
    ∀ kids : List (SN τ), x ∈ defaultsS cfg kids → cfg.contains x.name = false := by
  intro kids h
  obtain ⟨n, _, hi, hc⟩ := (defaults_emit kids).1 cfg x h
  rw [inst_name hi]; exact hc
theorem defaultsActive_absent (cfg : List Tok) (x : DN) :
    ∀ cases : List (SN τ), x ∈ defaultsActive cfg cases → cfg.contains x.name = false := by
  intro cases h
  obtain ⟨n, _, hi, hc⟩ := (defaults_emit cases).2.1 cfg x h
  rw [inst_name hi]; exact hc

end YV.DS
