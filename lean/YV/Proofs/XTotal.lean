/-
  Proofs.XTotal — the must/when parser and the leafref path parser never run out of the fuel the model gives
  them, so the outcome of building a machine is a machine or an error for every token list (`Built.diverge`
  is unreachable).  Read off the walk of XWalk for the set of all states with at most `n` tokens.  `OkP p n` is
  `Safe (length ≤ n) p`, and `Inv` is that walk stated function by function in these terms; the theorems at
  the end do not go through it.
-/
import YV.Proofs.XWalk
import YV.Proofs.XBuild
namespace YV.XP
open YV YV.X YV.XL

def OkP (p : Prop) (n : Nat) (r : P PSt) : Prop := (p → NoFuel r) ∧ ∀ s', r = .ok s' → s'.toks.length ≤ n

theorem OkP_ok (p : Prop) (n : Nat) (s : PSt) (h : s.toks.length ≤ n) : OkP p n (.ok s) :=
  ⟨fun _ => nofun, Lands.ret (I := fun s => s.toks.length ≤ n) h⟩

theorem Walks.okP {w f off : Nat} {g : PSt → P PSt} (h : Walks w f off g) (s : PSt) :
    OkP (w * s.toks.length + off ≤ f) s.toks.length (g s) :=
  have hs := h (stable_len _) s (Nat.le_refl _) (Nat.le_refl _)
  ⟨hs.1, fun s' hs' => (hs.2 s' hs').2⟩

structure Inv (f : Nat) : Prop where
  level : ∀ lvl s, OkP (24 * s.toks.length + (6 + (6 - lvl)) ≤ f) s.toks.length (pLevel f lvl s)
  levelRest : ∀ lvl s, OkP (24 * s.toks.length + 1 ≤ f) s.toks.length (pLevelRest f lvl s)
  unary : ∀ s, OkP (24 * s.toks.length + 5 ≤ f) s.toks.length (pUnary f s)
  unionRest : ∀ s, OkP (24 * s.toks.length + 1 ≤ f) s.toks.length (pUnionRest f s)
  path : ∀ s, OkP (24 * s.toks.length + 4 ≤ f) s.toks.length (pPath f s)
  locPath : ∀ s, OkP (24 * s.toks.length + 3 ≤ f) s.toks.length (pLocationPath f s)
  filterPath : ∀ s, OkP (24 * s.toks.length + 3 ≤ f) s.toks.length (pFilterPath f s)
  primary : ∀ s, OkP (24 * s.toks.length + 1 ≤ f) s.toks.length (pPrimary f s)
  preds : ∀ s, OkP (24 * s.toks.length + 1 ≤ f) s.toks.length (pPreds f s)
  relPath : ∀ s, OkP (24 * s.toks.length + 2 ≤ f) s.toks.length (pRelPath f s)
  step : ∀ s, OkP (24 * s.toks.length + 1 ≤ f) s.toks.length (pStep f s)

theorem inv_all (f : Nat) : Inv f :=
  have w := walk_all f
  ⟨fun lvl => (w.level lvl).okP, fun lvl => (w.levelRest lvl).okP, w.unary.okP, w.unionRest.okP, w.path.okP,
    w.locPath.okP, w.filterPath.okP, w.primary.okP, w.preds.okP, w.relPath.okP, w.step.okP⟩

theorem parseExprToks_nofuel (strict : Bool) (toks : List LexedTok) : parseExprToks strict toks ≠ .error .fuel :=
  (safe_parseExprToks (stable_len toks.length) strict toks (Nat.le_refl _)).1 trivial

theorem parseLeafrefToks_nofuel (toks : List LexedTok) : parseLeafrefToks toks ≠ .error .fuel :=
  (safe_parseLeafrefToks (stable_len toks.length) toks (Nat.le_refl _)).1 trivial

/-- **building a machine never runs on** -/
theorem build_total (strict fixed : Bool) (g : Grammar) (pm : PfxMap) (bs : List Nat) :
    build strict fixed g pm bs ≠ .diverge := by
  intro h
  have := build_diverge strict fixed g pm bs h
  cases g
  case leafref => exact parseLeafrefToks_nofuel _ this
  all_goals exact parseExprToks_nofuel strict _ this

end YV.XP
