/-
  Proofs.XLeafref — the leafref path parser accepts exactly the RFC 6020 path-arg language (token level).

    path-arg            = absolute-path / relative-path
    absolute-path       = 1*("/" (node-identifier *path-predicate))
    relative-path       = 1*(".." "/") descendant-path
    descendant-path     = node-identifier [*path-predicate absolute-path]
    path-predicate      = "[" path-equality-expr "]"
    path-equality-expr  = node-identifier "=" path-key-expr
    path-key-expr       = current-function-invocation "/" rel-path-keyexpr
    rel-path-keyexpr    = 1*(".." "/") *(node-identifier "/") node-identifier

  `LPath` is the syntax tree of this grammar, `LPath.toks` its token sequence, `LPath.code` the program the grammar
  actions emit.  `parse_sound`: whatever token list the parser accepts is the token sequence of a tree (induction
  along each parser function; `Con` records what a successful run read).  `parse_complete`: every
  tree's tokens are accepted, with that program (each parser function `Reads` the tokens of its part of the tree,
  Proofs.XReads, given more fuel than there are tokens; induction on the fuel).  `parse_program`: the parser is a function, so
  the program of an accepted input is the one `parse_complete` gives for the tree `parse_sound` finds; soundness
  need not follow what is emitted.
-/
import YV.Proofs.XReads
namespace YV.XP
open YV YV.X YV.XL

abbrev QN := List Rune × List Rune
def QN.tok (q : QN) : Tok := .nametest q.1 q.2
def QN.push (q : QN) : PI := .namePush q.1 q.2

/-- `n` times "../" -/
def upsToks : Nat → List Tok
  | 0 => []
  | n + 1 => .dotdot :: .ch (chr '/') :: upsToks n
def upsCode : Nat → List PI
  | 0 => []
  | n + 1 => .pathDotDot :: upsCode n

/-- *(node-identifier "/") -/
def namesToks : List QN → List Tok
  | [] => []
  | q :: r => q.tok :: .ch (chr '/') :: namesToks r
def namesCode : List QN → List PI
  | [] => []
  | q :: r => q.push :: namesCode r

structure LPred where
  key : QN
  fn : Fn
  ups : Nat            -- "../" beyond the first
  names : List QN
  last : QN

def LPred.toks (p : LPred) : List Tok :=
  .ch (chr '[') :: p.key.tok :: .eq :: .func p.fn :: .ch (chr '(') :: .ch (chr ')') :: .ch (chr '/') ::
    (upsToks (p.ups + 1) ++ (namesToks p.names ++ [p.last.tok, .ch (chr ']')]))
def LPred.code (p : LPred) : List PI :=
  .lrefPredStart :: p.key.push :: .lrefEquals :: (upsCode (p.ups + 1) ++ (namesCode p.names ++ [p.last.push, .lrefPredEnd]))

def predsToks : List LPred → List Tok
  | [] => []
  | p :: r => p.toks ++ predsToks r
def predsCode : List LPred → List PI
  | [] => []
  | p :: r => p.code ++ predsCode r

structure LStep where
  name : QN
  preds : List LPred

def LStep.toks (s : LStep) : List Tok := s.name.tok :: predsToks s.preds
def LStep.code (s : LStep) : List PI := s.name.push :: predsCode s.preds

/-- *("/" step) -/
def restToks : List LStep → List Tok
  | [] => []
  | s :: r => .ch (chr '/') :: (s.toks ++ restToks r)
def restCode : List LStep → List PI
  | [] => []
  | s :: r => s.code ++ restCode r

inductive LPath where
  | abs (first : LStep) (rest : List LStep)
  | rel (ups : Nat) (first : QN) (tail : Option (List LPred × LStep × List LStep))

def LPath.toks : LPath → List Tok
  | .abs f r => .ch (chr '/') :: (f.toks ++ restToks r)
  | .rel n q none => upsToks (n + 1) ++ [q.tok]
  | .rel n q (some (ps, s, r)) => upsToks (n + 1) ++ (q.tok :: (predsToks ps ++ (.ch (chr '/') :: (s.toks ++ restToks r))))

def LPath.code : LPath → List PI
  | .abs f r => .pathRoot :: (f.code ++ restCode r)
  | .rel n q none => upsCode (n + 1) ++ [q.push]
  | .rel n q (some (ps, s, r)) => upsCode (n + 1) ++ (q.push :: (predsCode ps ++ (s.code ++ restCode r)))

def descToks (q : QN) : Option (List LPred × LStep × List LStep) → List Tok
  | none => [q.tok]
  | some (ps, s, r) => q.tok :: (predsToks ps ++ (.ch (chr '/') :: (s.toks ++ restToks r)))
def descCode (q : QN) : Option (List LPred × LStep × List LStep) → List PI
  | none => [q.push]
  | some (ps, s, r) => q.push :: (predsCode ps ++ (s.code ++ restCode r))

theorem rel_toks (n : Nat) (q : QN) (tail) : (LPath.rel n q tail).toks = upsToks (n + 1) ++ descToks q tail := by
  cases tail <;> rfl

theorem rel_code (n : Nat) (q : QN) (tail) : (LPath.rel n q tail).code = upsCode (n + 1) ++ descCode q tail := by
  cases tail <;> rfl

theorem desc_head (q : QN) (tail) (rest : List Tok) : (descToks q tail ++ rest).headD .eof = q.tok := by
  cases tail <;> rfl

theorem lKeyNames_eq (f : Nat) (s : PSt) : lKeyPath.lKeyNames (f + 1) s = (do
    let s ← lNodeId s
    if peekTok s = .ch (chr '/') then skip s >>= lKeyPath.lKeyNames f else pure s) := rfl

theorem lKeyPath_up (f : Nat) (seen : Bool) (s : PSt) (h : peekTok s = .dotdot) :
    lKeyPath (f + 1) seen s = (do let s ← shift .pathDotDot s; let s ← expectCh '/' s; lKeyPath f true s) := by
  rw [lKeyPath, h]; exact (ok_bind ..).symm

theorem lKeyPath_name (f : Nat) (p l : List Rune) (s : PSt) (h : peekTok s = .nametest p l) :
    lKeyPath (f + 1) true s = lKeyPath.lKeyNames f s := by
  rw [lKeyPath, h]; rfl

theorem lPred_eq (f : Nat) (s : PSt) : lPred f s = (do
    let s ← shift .lrefPredStart s; let s ← lNodeId s; let s ← lExpectTok .eq s; let s ← out .lrefEquals s
    match peekTok s with
    | .func _ => do
      let s ← skip s; let s ← expectCh '(' s; let s ← expectCh ')' s; let s ← expectCh '/' s
      let s ← lKeyPath f false s; let s ← expectCh ']' s
      out .lrefPredEnd s
    | _ => synErr s) := rfl

theorem lAfter_eq (f : Nat) (s : PSt) : lSteps.lAfterNode (f + 1) s =
    (if peekTok s = .ch (chr '[') then lPred f s >>= lSteps.lAfterNode f
      else if peekTok s = .ch (chr '/') then skip s >>= lSteps f else pure s) := rfl

theorem lSteps_eq (f : Nat) (s : PSt) : lSteps (f + 1) s = lNodeId s >>= lSteps.lAfterNode f := rfl

theorem lPreds_eq (f : Nat) (s : PSt) : lPreds (f + 1) s = (do
    let s ← lPred f s
    if peekTok s = .ch (chr '[') then lPreds f s else pure s) := rfl

theorem lDesc_eq (f : Nat) (s : PSt) : lDesc f s = (do
    let s ← lNodeId s
    if peekTok s = .ch (chr '[') then do let s ← lPreds f s; let s ← expectCh '/' s; lSteps f s
    else if peekTok s = .ch (chr '/') then skip s >>= lSteps f else pure s) := rfl

theorem lRel_up (f : Nat) (s : PSt) (h : peekTok s = .dotdot) : lRel (f + 1) s = (do
    let s ← shift .pathDotDot s; let s ← expectCh '/' s
    match peekTok s with
    | .dotdot => lRel f s
    | _ => lDesc f s) := by
  rw [lRel, h]; exact (ok_bind ..).symm

/-- the start symbol: absolute-path / relative-path -/
abbrev lPathArg (f : Nat) (s : PSt) : P PSt :=
  match peekTok s with
  | .ch c => if c = chr '/' then shift .pathRoot s >>= lSteps f else synErr s
  | .dotdot => lRel f s
  | _ => synErr s

/-- the `do` block of `parseLeafrefToks` binds the result of the `match` of `lPathArg`, so its continuation `k` sits in
    every branch; about variables, so that the branches are not carried through the case split -/
theorem pathArg_bind (t : Tok) (r : Rune) (A B C D : P PSt) (k : PSt → P PSt) :
    (match t with
      | .ch c => if c = r then A >>= k else B >>= k
      | .dotdot => C >>= k
      | _ => D >>= k) =
    (match t with
      | .ch c => if c = r then A else B
      | .dotdot => C
      | _ => D) >>= k := by
  split
  · exact (apply_ite (· >>= k) ..).symm
  · rfl
  · rfl

theorem parse_eq (toks : List LexedTok) : parseLeafrefToks toks = (do
    let s ← lPathArg (8 * toks.length + 8) { toks := toks }
    let s ← out .evalLocPath s
    if peekTok s = .eof then out .store s else synErr s) :=
  pathArg_bind ..

/-! ### soundness: what the parser accepts is a tree's token sequence -/

-- `tkl` is `tk`; `tkl_emit` is stated with this name
def tkl (s : PSt) : List Tok := s.toks.map (·.tok)
theorem tkl_emit (s : PSt) (i : PI) : tkl (emit s i) = tkl s := rfl

/-- from `s` to `s'` the tokens `ts` were read (`emit` does not show: `tk (emit s i)` is `tk s` by definition) -/
def Con (s s' : PSt) (ts : List Tok) : Prop := tk s = ts ++ tk s'

theorem Con.trans {s s1 s2 : PSt} {a b : List Tok} (h1 : Con s s1 a) (h2 : Con s1 s2 b) : Con s s2 (a ++ b) :=
  Eq.trans h1 ((congrArg (a ++ ·) h2).trans (List.append_assoc ..).symm)

theorem Con.cast {s s' : PSt} {a b : List Tok} (h : Con s s' a) (e : a = b) : Con s s' b := e ▸ h

theorem Con.skip {s : PSt} {t : Tok} (h : peekTok s = t) (ht : t ≠ .eof) : Con s (adv s) [t] := tk_of_peek h ht

theorem Con.shift {s : PSt} {t : Tok} (h : peekTok s = t) (ht : t ≠ .eof) (i : PI) : Con s (emit (adv s) i) [t] :=
  tk_of_peek h ht

/-- a successful `if`: the branch taken, and its success (in the patterns below `⟨⟩` on the equation of an `else`
    branch closes the case if that branch is `synErr s`, and identifies the two states if it is `pure s`) -/
theorem ite_eq_ok {c : Prop} [Decidable c] {x y : P PSt} {s' : PSt} (h : (if c then x else y) = .ok s') :
    c ∧ x = .ok s' ∨ ¬c ∧ y = .ok s' :=
  if hc : c then .inl ⟨hc, (if_pos hc).symm.trans h⟩ else .inr ⟨hc, (if_neg hc).symm.trans h⟩

/- The three token-reading steps, as they occur: in front of a continuation `k`. -/

theorem lExpectTok_con {t : Tok} {k : PSt → P PSt} {s s' : PSt} (h : lExpectTok t s >>= k = .ok s') (ht : t ≠ .eof) :
    ∃ s1, Con s s1 [t] ∧ k s1 = .ok s' := by
  obtain ⟨s1, h1, h⟩ := bind_eq_ok.1 h
  obtain ⟨hp, ⟨⟩⟩ | ⟨_, ⟨⟩⟩ := ite_eq_ok h1
  exact ⟨_, Con.skip hp ht, h⟩

theorem expectCh_con {c : Char} {k : PSt → P PSt} {s s' : PSt} (h : expectCh c s >>= k = .ok s') :
    ∃ s1, Con s s1 [.ch (chr c)] ∧ k s1 = .ok s' :=
  lExpectTok_con (t := .ch (chr c)) h nofun

theorem lNodeId_con {k : PSt → P PSt} {s s' : PSt} (h : lNodeId s >>= k = .ok s') :
    ∃ (q : QN) (s1 : PSt), Con s s1 [q.tok] ∧ k s1 = .ok s' := by
  obtain ⟨s1, h1, h⟩ := bind_eq_ok.1 h
  unfold lNodeId at h1
  split at h1
  next p l hp => cases h1; exact ⟨(p, l), _, Con.shift hp nofun _, h⟩
  next => cases h1

theorem lKeyNames_sound (f : Nat) (s s' : PSt) (h : lKeyPath.lKeyNames f s = .ok s') :
    ∃ (names : List QN) (last : QN), Con s s' (namesToks names ++ [last.tok]) := by
  fun_induction lKeyPath.lKeyNames f s with  -- case1: no fuel
  | case1 => cases h
  | case2 f s ih =>
    obtain ⟨q, s1, cq, h⟩ := lNodeId_con h
    obtain ⟨hp, h⟩ | ⟨_, ⟨⟩⟩ := ite_eq_ok h
    · obtain ⟨names, last, hc⟩ := ih s1 h
      exact ⟨q :: names, last, cq.trans ((Con.skip hp nofun).trans hc)⟩
    · exact ⟨[], q, cq⟩

theorem lKeyPath_sound (f : Nat) (seen : Bool) (s s' : PSt) (h : lKeyPath f seen s = .ok s') :
    ∃ (n : Nat) (names : List QN) (last : QN), (seen = false → 1 ≤ n) ∧
      Con s s' (upsToks n ++ (namesToks names ++ [last.tok])) := by
  -- case1: no fuel; case2: `..`; case3: a name with no `..` before it; case4: a name after `..`; case5: another token
  fun_induction lKeyPath f seen s with
  | case1 => cases h
  | case2 f seen s hp ih =>
    obtain ⟨s1, c1, h⟩ := expectCh_con h
    obtain ⟨n, names, last, _, hc⟩ := ih s1 h
    exact ⟨n + 1, names, last, fun _ => Nat.le_add_left 1 n, (Con.shift hp nofun .pathDotDot).trans (c1.trans hc)⟩
  | case3 => cases h
  | case4 f seen s p l hp hs =>
    obtain ⟨names, last, hc⟩ := lKeyNames_sound f s s' h
    exact ⟨0, names, last, fun e => absurd (e ▸ rfl) hs, hc⟩
  | case5 => cases h

theorem lPred_sound (f : Nat) (s s' : PSt) (hp : peekTok s = .ch (chr '[')) (h : lPred f s = .ok s') :
    ∃ p : LPred, Con s s' p.toks := by
  -- `shift`, `out` and `skip` are `pure`
  rw [lPred_eq, pure_bind] at h
  obtain ⟨key, s1, c1, h⟩ := lNodeId_con h
  obtain ⟨s2, c2, h⟩ := lExpectTok_con h nofun
  rw [pure_bind] at h
  split at h
  next fn hfn =>
    rw [pure_bind] at h
    obtain ⟨s5, c5, h⟩ := expectCh_con h
    obtain ⟨s6, c6, h⟩ := expectCh_con h
    obtain ⟨s7, c7, h⟩ := expectCh_con h
    obtain ⟨s8, h8, h⟩ := bind_eq_ok.1 h
    obtain ⟨s9, c9, ⟨⟩⟩ := expectCh_con h
    obtain ⟨_ | m, names, last, hn, c8⟩ := lKeyPath_sound f false s7 s8 h8
    · cases hn rfl
    exact ⟨⟨key, fn, m, names, last⟩, ((Con.shift hp nofun .lrefPredStart).trans (c1.trans (c2.trans
      ((Con.skip hfn nofun).trans (c5.trans (c6.trans (c7.trans (c8.trans c9)))))))).cast (by simp [LPred.toks])⟩
  next => cases h

/-- (one statement about both functions: `lSteps` and `lAfterNode` call each other, each with the fuel of the other
    less one, so neither can come first) -/
theorem lSteps_sound (f : Nat) :
    (∀ s s', lSteps f s = .ok s' → ∃ (st : LStep) (r : List LStep), Con s s' (st.toks ++ restToks r)) ∧
    (∀ s s', lSteps.lAfterNode f s = .ok s' → ∃ (ps : List LPred) (r : List LStep), Con s s' (predsToks ps ++ restToks r)) := by
  induction f with
  | zero => exact ⟨fun _ _ => nofun, fun _ _ => nofun⟩
  | succ f ih =>
    refine ⟨fun s s' h => ?_, fun s s' h => ?_⟩
    · rw [lSteps_eq] at h
      obtain ⟨q, s1, cq, h⟩ := lNodeId_con h
      obtain ⟨ps, r, c⟩ := ih.2 s1 s' h
      exact ⟨⟨q, ps⟩, r, cq.trans c⟩
    · rw [lAfter_eq] at h
      obtain ⟨hp, h⟩ | ⟨_, h⟩ := ite_eq_ok h
      · obtain ⟨s1, h1, h⟩ := bind_eq_ok.1 h
        obtain ⟨p, cp⟩ := lPred_sound f s s1 hp h1
        obtain ⟨ps, r, c⟩ := ih.2 s1 s' h
        exact ⟨p :: ps, r, (cp.trans c).cast (List.append_assoc ..).symm⟩
      obtain ⟨hp, h⟩ | ⟨_, ⟨⟩⟩ := ite_eq_ok h
      · obtain ⟨st, r, c⟩ := ih.1 (adv s) s' h
        exact ⟨[], st :: r, (Con.skip hp nofun).trans c⟩
      · exact ⟨[], [], rfl⟩

theorem lPreds_sound (f : Nat) (s s' : PSt) (hp : peekTok s = .ch (chr '[')) (h : lPreds f s = .ok s') :
    ∃ (p : LPred) (ps : List LPred), Con s s' (predsToks (p :: ps)) := by
  fun_induction lPreds f s with  -- case1: no fuel
  | case1 => cases h
  | case2 f s ih =>
    obtain ⟨s1, h1, h⟩ := bind_eq_ok.1 h
    obtain ⟨p, cp⟩ := lPred_sound f s s1 hp h1
    obtain ⟨hp1, h⟩ | ⟨_, ⟨⟩⟩ := ite_eq_ok h
    · obtain ⟨p2, ps, c⟩ := ih s1 hp1 h
      exact ⟨p, p2 :: ps, cp.trans c⟩
    · exact ⟨p, [], cp.cast (List.append_nil _).symm⟩

theorem lDesc_sound (f : Nat) (s s' : PSt) (h : lDesc f s = .ok s') : ∃ q tail, Con s s' (descToks q tail) := by
  rw [lDesc_eq] at h
  obtain ⟨q, s1, cq, h⟩ := lNodeId_con h
  obtain ⟨hp, h⟩ | ⟨_, h⟩ := ite_eq_ok h
  · obtain ⟨s2, h2, h⟩ := bind_eq_ok.1 h
    obtain ⟨s3, c3, h⟩ := expectCh_con h
    obtain ⟨p, ps, cp⟩ := lPreds_sound f s1 s2 hp h2
    obtain ⟨st, r, c⟩ := (lSteps_sound f).1 s3 s' h
    exact ⟨q, some (p :: ps, st, r), cq.trans (cp.trans (c3.trans c))⟩
  obtain ⟨hp, h⟩ | ⟨_, ⟨⟩⟩ := ite_eq_ok h
  · obtain ⟨st, r, c⟩ := (lSteps_sound f).1 (adv s1) s' h
    exact ⟨q, some ([], st, r), cq.trans ((Con.skip hp nofun).trans c)⟩
  · exact ⟨q, none, cq⟩

theorem lRel_sound (f : Nat) (s s' : PSt) (h : lRel f s = .ok s') :
    ∃ n q tail, Con s s' (upsToks (n + 1) ++ descToks q tail) := by
  fun_induction lRel f s with  -- case1: no fuel; case2: `..`; case3: another token
  | case1 => cases h
  | case2 f s hp ih =>
    obtain ⟨s1, c1, h⟩ := expectCh_con h
    have c1 := (Con.shift hp nofun .pathDotDot).trans c1
    split at h
    · obtain ⟨n, q, tail, c⟩ := ih s1 h
      exact ⟨n + 1, q, tail, c1.trans c⟩
    · obtain ⟨q, tail, c⟩ := lDesc_sound f s1 s' h
      exact ⟨0, q, tail, c1.trans c⟩
  | case3 => cases h

theorem lPathArg_sound (f : Nat) (s s' : PSt) (h : lPathArg f s = .ok s') : ∃ p : LPath, Con s s' p.toks := by
  unfold lPathArg at h
  split at h
  next c hp =>
    obtain ⟨rfl, h⟩ | ⟨_, ⟨⟩⟩ := ite_eq_ok h
    obtain ⟨st, r, c⟩ := (lSteps_sound f).1 _ s' h
    exact ⟨.abs st r, (Con.shift hp nofun .pathRoot).trans c⟩
  next =>
    obtain ⟨n, q, tail, c⟩ := lRel_sound f s s' h
    exact ⟨.rel n q tail, c.cast (rel_toks n q tail).symm⟩
  next => cases h

/-- the whole parser: whatever it accepts is a path-arg tree's tokens up to the end-of-input token -/
theorem parse_sound (toks : List LexedTok) (s' : PSt) (h : parseLeafrefToks toks = .ok s') :
    ∃ (p : LPath) (rest : List Tok), toks.map (·.tok) = p.toks ++ rest ∧ rest.headD .eof = .eof := by
  rw [parse_eq] at h
  obtain ⟨s1, h1, h⟩ := bind_eq_ok.1 h
  obtain ⟨p, c⟩ := lPathArg_sound _ _ s1 h1
  rw [pure_bind] at h
  obtain ⟨hp, _⟩ | ⟨_, ⟨⟩⟩ := ite_eq_ok h
  exact ⟨p, tk s1, c, (peek_tk s1).symm.trans hp⟩

/-! ### completeness: the tokens of every tree are accepted -/

theorem Reads.nodeId {st : Tok → Prop} (q : QN) : Reads lNodeId [q.tok] [q.push] st := fun s _ ht _ _ => by
  simp only [lNodeId, show peekTok s = .nametest q.1 q.2 from peek_cons ht]; rfl

theorem Reads.expectTok {st : Tok → Prop} (t : Tok) : Reads (lExpectTok t) [t] [] st := fun s _ ht _ _ => by
  simp only [lExpectTok, peek_cons ht, ↓reduceIte]; rfl

theorem lKeyNames_reads (last : QN) (f : Nat) : ∀ names : List QN, names.length < f →
    Reads (lKeyPath.lKeyNames f) (namesToks names ++ [last.tok]) (namesCode names ++ [last.push]) (· ≠ .ch (chr '/')) := by
  induction f with
  | zero => exact fun _ hf => nomatch hf
  | succ f ih =>
    intro names hf
    refine .of_fun_eq (lKeyNames_eq f) ?_
    cases names with
    | nil => exact (Reads.nodeId last).andThen (.ite_neg (fun _ h => h) .pure)
    | cons q names =>
      exact (Reads.nodeId q).andThen (.ite_pos ((Reads.skip _).andThen (ih names (Nat.lt_of_succ_lt_succ hf))))

/-- `n` times "../" and `k` names before the last need fuel `k + n + 2` -/
theorem lKeyPath_reads (names : List QN) (last : QN) (f : Nat) : ∀ (n : Nat) (seen : Bool), (seen = false → 1 ≤ n) →
    names.length + n + 1 < f →
    Reads (lKeyPath f seen) (upsToks n ++ (namesToks names ++ [last.tok])) (upsCode n ++ (namesCode names ++ [last.push]))
      (· ≠ .ch (chr '/')) := by
  induction f with
  | zero => exact fun _ _ _ hf => nomatch hf
  | succ f ih =>
    intro n seen hs hf
    cases n with
    | succ n =>
      exact .of_peek (lKeyPath_up f seen) ((Reads.shift _ _).andThen ((Reads.expect '/').andThen
        (ih n true nofun (Nat.lt_of_succ_lt_succ hf))))
    | zero =>
      cases seen with
      | false => cases hs rfl
      | true =>
        have h := lKeyNames_reads last f names (Nat.lt_of_succ_lt_succ hf)
        -- the same term twice: the case split only names the first token, `last` or the head of `names`
        cases names with
        | nil => exact .of_peek (lKeyPath_name f last.1 last.2) h
        | cons q r => exact .of_peek (lKeyPath_name f q.1 q.2) h

theorem ups_length (n : Nat) : (upsToks n).length = 2 * n := by
  induction n with
  | zero => rfl
  | succ n ih => exact congrArg (· + 2) ih

theorem names_length (l : List QN) : (namesToks l).length = 2 * l.length := by
  induction l with
  | nil => rfl
  | cons a l ih => exact congrArg (· + 2) ih

theorem pred_fuel (p : LPred) : p.names.length + (p.ups + 1) + 1 < p.toks.length := by
  simp [LPred.toks, ups_length, names_length]; omega

theorem lPred_reads (p : LPred) (f : Nat) (hf : p.toks.length ≤ f) {st : Tok → Prop} :
    Reads (lPred f) p.toks p.code st :=
  (Reads.of_fun_eq (lPred_eq f) ((Reads.shift (.ch (chr '[')) _).andThen ((Reads.nodeId p.key).andThen
    ((Reads.expectTok .eq).andThen ((Reads.out _).andThen (.of_peek (t := .func p.fn) (fun _ h => by simp only [h])
      ((Reads.skip _).andThen ((Reads.expect '(').andThen ((Reads.expect ')').andThen ((Reads.expect '/').andThen
        ((lKeyPath_reads p.names p.last f (p.ups + 1) false (fun _ => Nat.le_add_left ..)
            (Nat.lt_of_lt_of_le (pred_fuel p) hf)).bind
          ((Reads.expect ']').andThen (.out .lrefPredEnd)) fun _ _ => by simp [chr]))))))))))).cast
    (by simp [LPred.toks]) (by simp [LPred.code])

/-! Fuel.  Every function is given more fuel than the tokens it is to read; a part of them read with one unit less: -/

theorem fuel_left {a b : List Tok} {f : Nat} (h : (a ++ b).length < f) : a.length < f := by
  rw [List.length_append] at h; exact Nat.lt_of_add_right_lt h

theorem fuel_right {a b : List Tok} {f : Nat} (h : (a ++ b).length < f) : b.length < f := by
  rw [List.length_append] at h; exact Nat.lt_of_add_left_lt h

theorem fuel_tail {t : Tok} {a b : List Tok} {f : Nat} (h : (t :: a ++ b).length < f + 1) : b.length < f :=
  fuel_right (Nat.lt_of_succ_lt_succ h)

/-- where a sequence of steps ends: at a token that begins neither a predicate nor a further step -/
def stopL (t : Tok) : Prop := t ≠ .ch (chr '[') ∧ t ≠ .ch (chr '/')

/-- (one statement about both functions, as in `lSteps_sound`) -/
theorem lSteps_reads (f : Nat) :
    (∀ (st : LStep) (r : List LStep), (st.toks ++ restToks r).length < f →
      Reads (lSteps f) (st.toks ++ restToks r) (st.code ++ restCode r) stopL) ∧
    (∀ (ps : List LPred) (r : List LStep), (predsToks ps ++ restToks r).length < f →
      Reads (lSteps.lAfterNode f) (predsToks ps ++ restToks r) (predsCode ps ++ restCode r) stopL) := by
  induction f with
  | zero => exact ⟨fun _ _ => nofun, fun _ _ => nofun⟩
  | succ f ih =>
    refine ⟨fun st r hf => .of_fun_eq (lSteps_eq f) ?_, fun ps r hf => .of_fun_eq (lAfter_eq f) ?_⟩
    · exact (Reads.nodeId st.name).andThen (ih.2 st.preds r (Nat.lt_of_succ_lt_succ hf))
    obtain _ | ⟨p, ps⟩ := ps
    · obtain _ | ⟨st, r⟩ := r
      · exact .ite_neg (fun _ h => h.1) (.ite_neg (fun _ h => h.2) .pure)
      · exact .ite_neg (fun _ _ => by simp [predsToks, restToks, chr]) (.ite_pos ((Reads.skip _).andThen
          (ih.1 st r (Nat.lt_of_succ_lt_succ hf))))
    · have hf : (p.toks ++ (predsToks ps ++ restToks r)).length < f + 1 := List.append_assoc .. ▸ hf
      exact (Reads.ite_pos ((lPred_reads p f (Nat.le_of_lt_succ (fuel_left hf))).andThen
        (ih.2 ps r (fuel_tail hf)))).cast (List.append_assoc p.toks _ _).symm (List.append_assoc p.code _ _).symm

theorem lPreds_reads (f : Nat) : ∀ (p : LPred) (ps : List LPred), (predsToks (p :: ps)).length < f →
    Reads (lPreds f) (predsToks (p :: ps)) (predsCode (p :: ps)) (· ≠ .ch (chr '[')) := by
  induction f with
  | zero => exact fun _ _ hf => nomatch hf
  | succ f ih =>
    intro p ps hf
    have hp := lPred_reads p f (Nat.le_of_lt_succ (fuel_left hf)) (st := fun _ => True)
    refine .of_fun_eq (lPreds_eq f) ?_
    cases ps with
    | nil => exact hp.andThen (.ite_neg (fun _ h => h) .pure)
    | cons p2 ps => exact hp.andThen (.ite_pos (ih p2 ps (fuel_tail hf)))

theorem lDesc_reads (q : QN) (tail : Option (List LPred × LStep × List LStep)) (f : Nat)
    (hf : (descToks q tail).length < f) : Reads (lDesc f) (descToks q tail) (descCode q tail) stopL := by
  refine .of_fun_eq (lDesc_eq f) ?_
  obtain _ | ⟨_ | ⟨p, ps⟩, st, r⟩ := tail
  · exact (Reads.nodeId q).andThen (.ite_neg (fun _ h => h.1) (.ite_neg (fun _ h => h.2) .pure))
  · exact (Reads.nodeId q).andThen (.ite_neg (fun _ _ => by simp [chr]) (.ite_pos ((Reads.skip _).andThen
      ((lSteps_reads f).1 st r (Nat.lt_of_succ_lt (Nat.lt_of_succ_lt hf))))))
  · have hf := Nat.lt_of_succ_lt hf
    exact (Reads.nodeId q).andThen (.ite_pos ((lPreds_reads f p ps (fuel_left hf)).bind
      ((Reads.expect '/').andThen ((lSteps_reads f).1 st r (Nat.lt_of_succ_lt (fuel_right hf)))) fun _ _ => by simp [chr]))

theorem lRel_reads (q : QN) (tail : Option (List LPred × LStep × List LStep)) (f : Nat) : ∀ n : Nat,
    (upsToks (n + 1) ++ descToks q tail).length < f →
    Reads (lRel f) (upsToks (n + 1) ++ descToks q tail) (upsCode (n + 1) ++ descCode q tail) stopL := by
  induction f with
  | zero => exact fun _ hf => nomatch hf
  | succ f ih =>
    intro n hf
    refine .of_peek (lRel_up f) ((Reads.shift _ _).andThen ((Reads.expect '/').andThen ?_))
    have hf := Nat.lt_of_succ_lt (Nat.lt_of_succ_lt_succ hf)
    cases n with
    | zero =>
      exact .of_eq (ts := descToks q tail) (fun s rest ht _ => by simp only [peek_tk, ht, desc_head, QN.tok])
        (lDesc_reads q tail f hf)
    | succ n => exact .of_peek (t := .dotdot) (fun s h => by simp only [h]) (ih n hf)

theorem path_len (p : LPath) : 1 ≤ p.toks.length := by
  cases p with
  | abs f r => exact Nat.succ_pos _
  | rel n q tail => rw [rel_toks]; exact Nat.succ_pos _

theorem lPathArg_reads (p : LPath) (f : Nat) (hf : p.toks.length < f) : Reads (lPathArg f) p.toks p.code stopL := by
  cases p with
  | abs st r =>
    exact .of_peek (t := .ch (chr '/')) (fun s h => by simp only [lPathArg, h, ↓reduceIte])
      ((Reads.shift _ _).andThen ((lSteps_reads f).1 st r (Nat.lt_of_succ_lt hf)))
  | rel n q tail =>
    rw [rel_toks, rel_code]
    exact .of_peek (t := .dotdot) (fun s h => by simp only [lPathArg, h]) (lRel_reads q tail f n (rel_toks n q tail ▸ hf))

/-- the whole parser: the tokens of every path-arg tree, followed by the end-of-input token, are accepted, and the
    program is the tree's, then evalLocPath and store -/
theorem parse_complete (p : LPath) (toks : List LexedTok) (rest : List Tok) (ht : toks.map (·.tok) = p.toks ++ rest)
    (hr : rest.headD .eof = .eof) :
    ∃ s', parseLeafrefToks toks = .ok s' ∧ s'.out.reverse = p.code ++ [.evalLocPath, .store] ∧ s'.perr = none := by
  have hf : (p.toks ++ rest).length < 8 * toks.length + 8 := by rw [← ht, List.length_map]; omega
  have ht0 : tk { toks := toks } = p.toks ++ rest := ht
  have hp : peekTok (emit (doneG p.toks.length p.code { toks := toks }) .evalLocPath) = .eof :=
    (peek_doneG_of p.code ht0).trans hr
  refine ⟨emit (emit (doneG p.toks.length p.code { toks := toks }) .evalLocPath) .store, ?_, by simp [emit, doneG], rfl⟩
  rw [parse_eq, lPathArg_reads p _ (fuel_left hf) _ rest ht0 (by rw [hr]; exact ⟨nofun, nofun⟩) rfl]
  exact if_pos hp

/-- the program of an accepted input is its tree's: the result `parse_complete` gives for the tree is the only one -/
theorem parse_program (toks : List LexedTok) (s' : PSt) (h : parseLeafrefToks toks = .ok s') :
    ∃ p : LPath, s'.out.reverse = p.code ++ [.evalLocPath, .store] ∧ ∃ rest, toks.map (·.tok) = p.toks ++ rest := by
  obtain ⟨p, rest, h1, h2⟩ := parse_sound toks s' h
  obtain ⟨s'', h', hc, _⟩ := parse_complete p toks rest h1 h2
  cases h.symm.trans h'
  exact ⟨p, hc, rest, h1⟩

end YV.XP
