/-
  Proofs.YCycle — the chain-remembering walk reports a cycle only if one exists (soundness: an acyclic
  set of definitions — diamonds included — is never rejected), and accepts only if none can be reached
  (completeness); so whenever it answers, its answer is a property of the reference graph (`walk_answer`), which
  does not depend on the order in which a definition lists its references (`ReachesCycle.congr`).  And it answers
  on every finite set of definitions, with an explicit bound on the fuel it needs (`walk_enough`).
-/
import YV.Model.YCycle
namespace YV.Cyc

variable {α : Type} [DecidableEq α]

theorem Path.append {succ : α → List α} {a b c : α} {p q : List α}
    (h1 : Path succ a p b) (h2 : Path succ b q c) : Path succ a (p ++ q) c := by
  induction h1 with
  | nil n => simpa using h2
  | cons hm _ ih => exact .cons hm (ih h2)

/-- `ChainOK succ chain n`: the chain is a path of references ending at `n`'s predecessor: every element
    of the chain reaches `n` by a non-empty path -/
def ChainOK (succ : α → List α) (chain : List α) (n : α) : Prop :=
  ∀ c ∈ chain, ∃ p, p ≠ [] ∧ Path succ c p n

theorem walk_succ (succ : α → List α) (fuel : Nat) (chain : List α) (n : α) :
    walk succ (fuel + 1) chain n = if n ∈ chain then .cycle else walkAll succ fuel (n :: chain) (succ n) := rfl

theorem walkAll_cons (succ : α → List α) (fuel : Nat) (chain : List α) (m : α) (r : List α) :
    walkAll succ (fuel + 1) chain (m :: r) =
      match walk succ fuel chain m with
      | .ok => walkAll succ fuel chain r
      | e => e := rfl

theorem walk_cycle_sound_both (succ : α → List α) (fuel : Nat) :
    (∀ chain n, ChainOK succ chain n → walk succ fuel chain n = .cycle → ReachesCycle succ n) ∧
    (∀ chain l, (∀ m ∈ l, ChainOK succ chain m) → walkAll succ fuel chain l = .cycle →
      ∃ m ∈ l, ReachesCycle succ m) := by
  induction fuel with
  | zero => exact ⟨fun _ _ _ h => (nomatch h), fun _ _ _ h => (nomatch h)⟩
  | succ fuel ih =>
    refine ⟨fun chain n hc h => ?_, fun chain l hc h => ?_⟩
    · rw [walk_succ] at h
      split at h
      · -- n is on the chain: the chain gives a non-empty path n → … → n
        next hn =>
        obtain ⟨p, hp, hpath⟩ := hc n hn
        exact ⟨n, [], p, .nil n, hp, hpath⟩
      · have hc' : ∀ m ∈ succ n, ChainOK succ (n :: chain) m := by
          intro m hm c hcm
          rcases List.mem_cons.1 hcm with rfl | hcm
          · exact ⟨[m], by simp, .cons hm (.nil m)⟩
          · obtain ⟨p, hp, hpath⟩ := hc c hcm
            exact ⟨p ++ [m], by simp, hpath.append (.cons hm (.nil m))⟩
        obtain ⟨m, hm, x, p, q, hp, hq⟩ := ih.2 (n :: chain) (succ n) hc' h
        exact ⟨x, m :: p, q, .cons hm hp, hq⟩
    · cases l with
      | nil => cases h
      | cons m r =>
        rw [walkAll_cons] at h
        split at h
        · obtain ⟨m', hm', hr⟩ := ih.2 chain r (fun x hx => hc x (List.mem_cons_of_mem _ hx)) h
          exact ⟨m', List.mem_cons_of_mem _ hm', hr⟩
        · exact ⟨m, List.mem_cons_self, ih.1 chain m (hc m List.mem_cons_self) h⟩

theorem walkAll_cycle_sound (succ : α → List α) : ∀ (fuel : Nat) (chain : List α) (l : List α),
    (∀ m ∈ l, ChainOK succ chain m) → walkAll succ fuel chain l = .cycle → ∃ m ∈ l, ReachesCycle succ m :=
  fun fuel => (walk_cycle_sound_both succ fuel).2

theorem walk_sound (succ : α → List α) (fuel : Nat) (n : α) (h : walk succ fuel [] n = .cycle) :
    ReachesCycle succ n :=
  (walk_cycle_sound_both succ fuel).1 [] n nofun h

theorem walkAll_ok (succ : α → List α) (chain l : List α) :
    ∀ fuel, walkAll succ fuel chain l = .ok → ∀ m ∈ l, ∃ f, walk succ f chain m = .ok := by
  induction l with
  | nil => exact fun _ _ _ hm => nomatch hm
  | cons x r ih =>
    intro fuel h m hm
    cases fuel with
    | zero => cases h
    | succ fuel =>
      rw [walkAll_cons] at h
      split at h
      · next hw =>
        rcases List.mem_cons.1 hm with rfl | hm
        · exact ⟨fuel, hw⟩
        · exact ih fuel h m hm
      · next hne => exact absurd h hne

theorem walk_ok_step (succ : α → List α) (fuel : Nat) (chain : List α) (n : α) (h : walk succ fuel chain n = .ok) :
    n ∉ chain ∧ ∀ m ∈ succ n, ∃ f, walk succ f (n :: chain) m = .ok := by
  cases fuel with
  | zero => cases h
  | succ fuel =>
    rw [walk_succ] at h
    split at h
    · cases h
    · next hn => exact ⟨hn, walkAll_ok succ (n :: chain) (succ n) fuel h⟩

/-- an accepting walk accepts every definition it can reach, the ones it came through (`c`) added to the chain -/
theorem walk_ok_path (succ : α → List α) {n z : α} {p : List α} (hp : Path succ n p z) :
    ∀ (fuel : Nat) (chain : List α), walk succ fuel chain n = .ok →
      ∃ f c, walk succ f (c ++ chain) z = .ok ∧ (p ≠ [] → n ∈ c) := by
  induction hp with
  | nil n => exact fun fuel chain h => ⟨fuel, [], h, fun hne => absurd rfl hne⟩
  | @cons n m z p' hm _ ih =>
    intro fuel chain h
    obtain ⟨f, hf⟩ := (walk_ok_step succ fuel chain n h).2 m hm
    obtain ⟨f', c, hw, _⟩ := ih f (n :: chain) hf
    exact ⟨f', c ++ [n], by rw [List.append_assoc]; exact hw, fun _ => List.mem_append_right c List.mem_cons_self⟩

theorem walk_ok_acyclic (succ : α → List α) (fuel : Nat) (chain : List α) (n : α)
    (h : walk succ fuel chain n = .ok) : ¬ ReachesCycle succ n := by
  rintro ⟨x, p, q, hp, hq, hqq⟩
  -- the walk accepts `x`, and again after the way round, with `x` on the chain by then
  obtain ⟨f, c, hx, _⟩ := walk_ok_path succ hp fuel chain h
  obtain ⟨f', c', hx', hc'⟩ := walk_ok_path succ hqq f (c ++ chain) hx
  exact (walk_ok_step succ f' _ x hx').1 (List.mem_append_left _ (hc' hq))

theorem walk_answer (succ : α → List α) (fuel : Nat) (n : α) (h : walk succ fuel [] n ≠ .outOfFuel) :
    (walk succ fuel [] n = .cycle ↔ ReachesCycle succ n) ∧ (walk succ fuel [] n = .ok ↔ ¬ ReachesCycle succ n) := by
  cases hw : walk succ fuel [] n with
  | ok => simp [walk_ok_acyclic succ fuel [] n hw]
  | cycle => simp [walk_sound succ fuel n hw]
  | outOfFuel => exact absurd hw h

theorem walk_self (succ : α → List α) (n : α) (h : n ∈ succ n) (fuel : Nat) :
    walk succ (fuel + 3) [] n = .cycle ∨ ∃ m ∈ succ n, walk succ (fuel + 1) [n] m ≠ .ok :=
  .inr ⟨n, h, by rw [walk_succ, if_pos List.mem_cons_self]; nofun⟩

omit [DecidableEq α] in
theorem Path.congr {succ succ' : α → List α} (h : ∀ n m, m ∈ succ n → m ∈ succ' n) {a b : α} {p : List α}
    (hp : Path succ a p b) : Path succ' a p b := by
  induction hp with
  | nil n => exact .nil n
  | cons hm _ ih => exact .cons (h _ _ hm) ih

omit [DecidableEq α] in
theorem ReachesCycle.congr {succ succ' : α → List α} (h : ∀ n m, m ∈ succ n → m ∈ succ' n) {n : α}
    (hr : ReachesCycle succ n) : ReachesCycle succ' n := by
  obtain ⟨x, p, q, hp, hq, hqq⟩ := hr
  exact ⟨x, p, q, hp.congr h, hq, hqq.congr h⟩

theorem walk_order_independent (succ succ' : α → List α) (hsame : ∀ n m, m ∈ succ n ↔ m ∈ succ' n)
    (fuel fuel' : Nat) (n : α) (h : walk succ fuel [] n ≠ .outOfFuel) (h' : walk succ' fuel' [] n ≠ .outOfFuel) :
    walk succ fuel [] n = walk succ' fuel' [] n := by
  have e : ReachesCycle succ n ↔ ReachesCycle succ' n :=
    ⟨.congr fun a b => (hsame a b).1, .congr fun a b => (hsame a b).2⟩
  have a := walk_answer succ fuel n h
  have a' := walk_answer succ' fuel' n h'
  rw [e] at a
  cases hw' : walk succ' fuel' [] n with
  | ok => exact a.2.2 (a'.2.1 hw')
  | cycle => exact a.1.2 (a'.1.1 hw')
  | outOfFuel => exact absurd hw' h'

/-- the fuel a walk needs when at most `k` definitions are not yet on the chain and no definition has more
    than `D` references -/
def need (D k : Nat) : Nat := 1 + k * (D + 2)

theorem walkAll_enough' (succ : α → List α) (chain : List α) (nd : Nat) :
    ∀ fuel l, (∀ m ∈ l, ∀ f, nd ≤ f → walk succ f chain m ≠ .outOfFuel) →
      l.length + 1 + nd ≤ fuel → walkAll succ fuel chain l ≠ .outOfFuel := by
  intro fuel
  induction fuel with
  | zero => intro l _ hf; omega
  | succ f ih =>
    intro l hw hf
    cases l with
    | nil => exact nofun
    | cons m r =>
      rw [List.length_cons] at hf
      rw [walkAll_cons]
      split
      · exact ih r (fun x hx => hw x (List.mem_cons_of_mem _ hx)) (by omega)
      · exact hw m List.mem_cons_self f (by omega)

/-- **termination with a verdict.** On a finite set of definitions `univ` closed under references, where no
    definition lists more than `D` references, the walk answers — cycle or no cycle — whenever it is given
    `1 + k·(D+2)` units of fuel, `k` being the number of definitions not yet on the chain -/
theorem walk_enough (succ : α → List α) (univ : List α) (D : Nat)
    (hu : ∀ n ∈ univ, ∀ m ∈ succ n, m ∈ univ) (hD : ∀ n ∈ univ, (succ n).length ≤ D) :
    ∀ (k fuel : Nat) (chain : List α) (n : α), chain.Nodup → chain ⊆ univ → n ∈ univ →
      univ.length ≤ chain.length + k → need D k ≤ fuel → walk succ fuel chain n ≠ .outOfFuel := by
  intro k
  induction k with
  | zero =>
    intro fuel chain n hnd hsub hn hlen hf
    cases fuel with
    | zero => simp [need] at hf
    | succ f =>
      -- the chain holds every definition already (pigeonhole), `n` among them
      rw [walk_succ, if_pos]
      · exact nofun
      · refine Decidable.byContradiction fun hc => ?_
        have := List.Nodup.length_le_of_subset (List.nodup_cons.2 ⟨hc, hnd⟩) (List.cons_subset.2 ⟨hn, hsub⟩)
        rw [List.length_cons] at this; omega
  | succ k ih =>
    intro fuel chain n hnd hsub hn hlen hf
    cases fuel with
    | zero => simp [need] at hf
    | succ f =>
      rw [walk_succ]
      split
      · exact nofun
      · next hc =>
        refine walkAll_enough' succ (n :: chain) (need D k) f (succ n) (fun m hm f' hf' =>
          ih f' (n :: chain) m (List.nodup_cons.2 ⟨hc, hnd⟩) (List.cons_subset.2 ⟨hn, hsub⟩) (hu n hn m hm)
            (by rw [List.length_cons]; omega) hf') ?_
        have := hD n hn
        simp only [need, Nat.succ_mul] at hf ⊢
        omega

end YV.Cyc
