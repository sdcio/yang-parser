/-
  Proofs.XSpec — the scalar machine computes the XPath 1.0 value: for every well-formed expression tree over
  numbers, literals, single-valued data operands, unary minus, the thirteen binary operators and the core
  functions other than round() / substring(), evaluating with the machine's primitives (`evalM`, which the
  compiled program computes: Proofs.XEval) succeeds and its result is the value the specification `XS.eval`
  gives.  Comparisons of multi-valued leaf-lists are covered separately (`compare_spec`); round() and
  substring() (IEEE rounding against exact integer arithmetic) are compared by the correspondence streams.
-/
import YV.Proofs.XEval
import YV.Proofs.XCmp
namespace YV.XS
open YV YV.X

def SimpleEnv (env : Env) : Prop := ∀ id, Simple (env id)

/-- functions whose body is proved equal to the specification's (nothing to do with side effects) -/
def pureFn (f : Fn) : Bool :=
  match f with
  | .reMatch | .count | .current | .localName | .sum | .round | .substring => false
  | _ => true

mutual
/-- every call is of a `pureFn` function -/
def PureX : Expr → Prop
  | .num _ | .lit _ | .env _ => True
  | .neg e => PureX e
  | .bin _ a b => PureX a ∧ PureX b
  | .call f args => pureFn f = true ∧ PureXs args
def PureXs : List Expr → Prop
  | [] => True
  | e :: es => PureX e ∧ PureXs es
end

theorem lookupIdx_eq (c : Char) : ∀ (l : Str), lookupIdx c l = l.idxOf? c
  | [] => rfl
  | d :: ds => by simp only [lookupIdx, lookupIdx_eq c ds, List.idxOf?_cons, beq_iff_eq, eq_comm (a := d)]

theorem translate_eq (src frm to : Str) : translateM src frm to = translateS src frm to := by
  unfold translateM translateS
  simp only [lookupIdx_eq]
  induction src with
  | nil => rfl
  | cons c r ih =>
    rw [List.filterMap_cons, List.flatMap_cons, ← ih]
    cases frm.idxOf? c with
    | none => rfl
    | some i => dsimp only; cases to[i]? <;> rfl

/-- one function call on evaluated arguments: conversion per declared kind, then the body.  These are the two
    lines of `evalM`'s `.call` case, so that case unfolds to `evalListM env args >>= callM f` (used in `evalM_spec`). -/
def callM (f : Fn) (vs : List Datum) : M Datum := do
  let cs ← convArgsRev f.sig.1.reverse vs.reverse
  bltin f cs.reverse

/-- `convertArgType` on a single-valued operand: the XPath conversion the declared kind asks for -/
def convS : ArgKind → Datum → Datum
  | .num, d => .num (numberOf true (ofDatum d))
  | .lit, d => .lit (stringOf (ofDatum d))
  | .bool, d => .bool (booleanOf (ofDatum d))
  | _, d => d

theorem convertArg_simple {k : ArgKind} (hk : k ≠ .nodeset) {d : Datum} (h : Simple d) :
    convertArg k d = .ok (convS k d) := by
  cases k with
  | nodeset => exact absurd rfl hk
  | obj => simp only [convertArg, simple_ne_invalid h, ↓reduceIte]; rfl
  | num => simp only [convertArg, toNum_spec h, ok_bind]; cases d <;> rfl
  | lit => simp only [convertArg, toLit_spec h, ok_bind]; cases d <;> rfl
  | bool => simp only [convertArg, toBool_spec (simple_ne_invalid h), ok_bind]; cases d <;> rfl

theorem convArgsRev_simple (ks : List ArgKind) (vs : List Datum) (hl : vs.length = ks.length)
    (hk : ∀ k ∈ ks, k ≠ .nodeset) (hs : ∀ d ∈ vs, Simple d) :
    convArgsRev ks vs = .ok (List.zipWith convS ks vs) := by
  induction ks generalizing vs with
  | nil => rfl
  | cons k ks ih =>
    cases vs with
    | nil => cases hl
    | cons d vs =>
      have ⟨hk1, hk2⟩ := List.forall_mem_cons.mp hk
      have ⟨hs1, hs2⟩ := List.forall_mem_cons.mp hs
      simp only [convArgsRev, convertArg_simple hk1 hs1, ih vs (Nat.succ.inj hl) hk2 hs2, ok_bind, YV.pure_eq_ok,
        List.zipWith_cons_cons]

theorem sig_no_nodeset {f : Fn} (hp : pureFn f = true) : ∀ k ∈ f.sig.1, k ≠ .nodeset := by
  cases f
  case reMatch | count | current | localName | sum | round | substring => cases hp
  all_goals decide

theorem callM_simple (f : Fn) (hp : pureFn f = true) (vs : List Datum) (hs : ∀ d ∈ vs, Simple d)
    (hlen : vs.length = f.sig.1.length) :
    callM f vs = bltin f (List.zipWith convS f.sig.1.reverse vs.reverse).reverse := by
  simp only [callM, convArgsRev_simple f.sig.1.reverse vs.reverse (by simp only [List.length_reverse, hlen])
    (fun k h => sig_no_nodeset hp k (List.mem_reverse.mp h)) (fun d h => hs d (List.mem_reverse.mp h)), ok_bind]

theorem length_two {α} {l : List α} (h : l.length = 2) : ∃ a b, l = [a, b] :=
  match l, h with | [a, b], _ => ⟨a, b, rfl⟩
theorem length_three {α} {l : List α} (h : l.length = 3) : ∃ a b c, l = [a, b, c] :=
  match l, h with | [a, b, c], _ => ⟨a, b, c, rfl⟩

theorem indexOf_nil (s : Str) : indexOf [] s = some 0 := by cases s <;> rfl

theorem bltin_substringBefore (s p : Str) : bltin .substringBefore [.lit s, .lit p] =
    .ok (.lit (match indexOf p s with | some i => s.take i | none => [])) := by
  show (match indexOf p s with | some i => pure (Datum.lit (s.take i)) | none => pure (Datum.lit [])) = _
  cases indexOf p s <;> rfl

/-- the model treats the empty pattern apart; it is found at 0 and nothing is dropped -/
theorem bltin_substringAfter (s p : Str) : bltin .substringAfter [.lit s, .lit p] =
    .ok (.lit (match indexOf p s with | some i => s.drop (i + p.length) | none => [])) := by
  show (if p.isEmpty then pure (Datum.lit s) else
    match indexOf p s with | some i => pure (Datum.lit (s.drop (i + p.length))) | none => pure (Datum.lit [])) = _
  cases p with
  | nil => rw [indexOf_nil]; rfl
  | cons c p => cases indexOf (c :: p) s <;> rfl

/-- On converted arguments every body computes (by unfolding) to the value `fnS` gives; the three bodies that
    differ in form have their lemma (`translate_eq`, `bltin_substringBefore`, `bltin_substringAfter`). -/
theorem call_spec (f : Fn) (hp : pureFn f = true) (vs : List Datum) (hs : ∀ d ∈ vs, Simple d)
    (hlen : vs.length = f.sig.1.length) :
    ∃ d, callM f vs = .ok d ∧ Simple d ∧ fnS true f (vs.map ofDatum) = some (ofDatum d) := by
  rw [callM_simple f hp vs hs hlen]
  cases f
  case reMatch | count | current | localName | sum | round | substring => cases hp
  case xtrue | xfalse | last | position =>
    cases List.length_eq_zero_iff.mp hlen
    exact ⟨_, rfl, by trivial, rfl⟩
  case not | ceiling | floor | stringLength | normalizeSpace =>
    obtain ⟨a, rfl⟩ := List.length_eq_one_iff.mp hlen
    exact ⟨_, rfl, by trivial, rfl⟩
  -- an argument of kind OBJECT is handed over as it is
  case boolean =>
    obtain ⟨a, rfl⟩ := List.length_eq_one_iff.mp hlen
    exact ⟨_, congrArg (· >>= _) (toBool_spec (simple_ne_invalid (hs a List.mem_cons_self))), trivial, rfl⟩
  case number =>
    obtain ⟨a, rfl⟩ := List.length_eq_one_iff.mp hlen
    exact ⟨_, congrArg (· >>= _) (toNum_spec (hs a List.mem_cons_self)), trivial, rfl⟩
  case string =>
    obtain ⟨a, rfl⟩ := List.length_eq_one_iff.mp hlen
    exact ⟨_, congrArg (· >>= _) (toLit_spec (hs a List.mem_cons_self)), trivial, rfl⟩
  case concat | contains | startsWith =>
    obtain ⟨a, b, rfl⟩ := length_two hlen
    exact ⟨_, rfl, by trivial, rfl⟩
  case translate =>
    obtain ⟨a, b, c, rfl⟩ := length_three hlen
    exact ⟨_, rfl, by trivial, congrArg (fun s => some (Val.str s)) (translate_eq _ _ _).symm⟩
  case substringBefore =>
    obtain ⟨a, b, rfl⟩ := length_two hlen
    exact ⟨_, bltin_substringBefore _ _, trivial, rfl⟩
  case substringAfter =>
    obtain ⟨a, b, rfl⟩ := length_two hlen
    exact ⟨_, bltin_substringAfter _ _, trivial, rfl⟩

/- The three kinds of binary operator on single-valued operands, for any operator of the kind. -/

theorem binM_arith {op : BinOp} (hop : op = .add ∨ op = .sub ∨ op = .mul ∨ op = .div ∨ op = .mod) {a b : Datum}
    (ha : Simple a) (hb : Simple b) :
    binM op a b = .ok (.num (arith op (numberOf true (ofDatum a)) (numberOf true (ofDatum b)))) := by
  have : binM op a b = b.toNum >>= fun y => a.toNum >>= fun x => pure (.num (arith op x y)) := by
    rcases hop with rfl | rfl | rfl | rfl | rfl <;> rfl
  rw [this, toNum_spec hb, toNum_spec ha]; rfl

theorem binM_bool {op : BinOp} (hop : op = .and ∨ op = .or) {a b : Datum} (ha : a ≠ .invalid) (hb : b ≠ .invalid) :
    binM op a b = .ok (.bool (if op = .and then booleanOf (ofDatum a) && booleanOf (ofDatum b)
      else booleanOf (ofDatum a) || booleanOf (ofDatum b))) := by
  have : binM op a b = b.toBool >>= fun y => a.toBool >>= fun x => pure (.bool (if op = .and then x && y else x || y)) := by
    rcases hop with rfl | rfl <;> rfl
  rw [this, toBool_spec hb, toBool_spec ha]; rfl

theorem binM_cmp {op : BinOp} (hop : cmpOp op = true) {a b : Datum} (ha : a ≠ .invalid) (hb : b ≠ .invalid) :
    binM op a b = .ok (.bool (cmp true op (ofDatum a) (ofDatum b))) := by
  have : binM op a b = X.compare op a b >>= fun r => pure (.bool r) := by
    cases op
    case eq | ne | lt | gt | le | ge => rfl
    all_goals cases hop
  rw [this, compare_spec op hop a b ha hb]; rfl

theorem binM_spec (op : BinOp) (a b : Datum) (ha : Simple a) (hb : Simple b) :
    ∃ d, binM op a b = .ok d ∧ Simple d ∧
      (match op with
       | .and => some (Val.bool (booleanOf (ofDatum a) && booleanOf (ofDatum b)))
       | .or => some (Val.bool (booleanOf (ofDatum a) || booleanOf (ofDatum b)))
       | .add | .sub | .mul | .div | .mod => some (Val.num (arith op (numberOf true (ofDatum a)) (numberOf true (ofDatum b))))
       | _ => some (Val.bool (cmp true op (ofDatum a) (ofDatum b)))) = some (ofDatum d) := by
  have hia := simple_ne_invalid ha
  have hib := simple_ne_invalid hb
  cases op
  case add | sub | mul | div | mod => exact ⟨_, binM_arith (by decide) ha hb, trivial, rfl⟩
  case and | or => exact ⟨_, binM_bool (by decide) hia hib, trivial, rfl⟩
  case eq | ne | lt | gt | le | ge => exact ⟨_, binM_cmp rfl hia hib, trivial, rfl⟩

mutual
/-- **machine primitives = XPath 1.0** on whole expression trees -/
theorem evalM_spec (env : Env) (henv : SimpleEnv env) : ∀ (e : Expr), WellFormed e → PureX e →
    ∃ d, evalM env e = .ok d ∧ Simple d ∧ eval true env e = some (ofDatum d) := by
  intro e hw hp
  cases e with
  | num x => exact ⟨.num x, rfl, trivial, rfl⟩
  | lit s => exact ⟨.lit s, rfl, trivial, rfl⟩
  | env id => exact ⟨env id, rfl, henv id, rfl⟩
  | neg e =>
    obtain ⟨d, h1, h2, h3⟩ := evalM_spec env henv e hw hp
    exact ⟨.num (SF.neg (numberOf true (ofDatum d))), by simp only [evalM, h1, toNum_spec h2, ok_bind, YV.pure_eq_ok],
      trivial, by simp only [eval, h3, Option.bind_eq_bind, Option.bind_some]; rfl⟩
  | bin op a b =>
    obtain ⟨da, a1, a2, a3⟩ := evalM_spec env henv a hw.1 hp.1
    obtain ⟨db, b1, b2, b3⟩ := evalM_spec env henv b hw.2 hp.2
    obtain ⟨d, h1, h2, h3⟩ := binM_spec op da db a2 b2
    refine ⟨d, by simp only [evalM, a1, b1, h1, ok_bind], h2, ?_⟩
    simp only [eval, a3, b3, Option.bind_eq_bind, Option.bind_some]
    cases op <;> exact h3
  | call f args =>
    obtain ⟨vs, v1, v2, v3⟩ := evalListM_spec env henv args hw.2 hp.2
    obtain ⟨d, h1, h2, h3⟩ := call_spec f hp.1 vs v2 ((evalListM_length env args vs v1).trans hw.1)
    exact ⟨d, by simp only [evalM, v1, ok_bind]; exact h1, h2,
      by simp only [eval, v3, Option.bind_eq_bind, Option.bind_some]; exact h3⟩
theorem evalListM_spec (env : Env) (henv : SimpleEnv env) : ∀ (es : List Expr), WellFormedList es → PureXs es →
    ∃ vs, evalListM env es = .ok vs ∧ (∀ d ∈ vs, Simple d) ∧ evalList true env es = some (vs.map ofDatum) := by
  intro es hw hp
  cases es with
  | nil => exact ⟨[], rfl, List.forall_mem_nil _, rfl⟩
  | cons e es =>
    obtain ⟨d, h1, h2, h3⟩ := evalM_spec env henv e hw.1 hp.1
    obtain ⟨vs, v1, v2, v3⟩ := evalListM_spec env henv es hw.2 hp.2
    exact ⟨d :: vs, by simp only [evalListM, h1, v1, ok_bind, YV.pure_eq_ok],
      List.forall_mem_cons.mpr ⟨h2, v2⟩,
      by simp only [evalList, h3, v3, Option.bind_eq_bind, Option.bind_some, List.map_cons]⟩
end

end YV.XS
