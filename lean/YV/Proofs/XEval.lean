/-
  Proofs.XEval — compiler correctness of the postfix stack machine: running the code the yacc
  actions emit for an expression tree is the same as evaluating the tree bottom-up with the
  machine's own primitive operations (`evalM`).  Induction on the expression, generalised over
  the rest of the program and the stack; no bound on nesting depth.
-/
import YV.Model.XEval
import YV.Proofs.Except
namespace YV.X

/-- a binary operator on evaluated operands: the conversions and the comparison are the machine's own -/
def binM (op : BinOp) (a b : Datum) : M Datum :=
  match op with
  | .add => do let y ← b.toNum; let x ← a.toNum; pure (.num (SF.add x y))
  | .sub => do let y ← b.toNum; let x ← a.toNum; pure (.num (SF.sub x y))
  | .mul => do let y ← b.toNum; let x ← a.toNum; pure (.num (SF.mul x y))
  | .div => do let y ← b.toNum; let x ← a.toNum; pure (.num (SF.div x y))
  | .mod => do let y ← b.toNum; let x ← a.toNum; pure (.num (SF.fmod x y))
  | .and => do let y ← b.toBool; let x ← a.toBool; pure (.bool (x && y))
  | .or => do let y ← b.toBool; let x ← a.toBool; pure (.bool (x || y))
  | .eq => do pure (.bool (← compare .eq a b))
  | .ne => do pure (.bool (← compare .ne a b))
  | .lt => do pure (.bool (← compare .lt a b))
  | .gt => do pure (.bool (← compare .gt a b))
  | .le => do pure (.bool (← compare .le a b))
  | .ge => do pure (.bool (← compare .ge a b))

/-- convert the evaluated arguments in the machine's order (last argument first) -/
def convArgsRev : List ArgKind → List Datum → M (List Datum)
  | [], _ => pure []
  | k :: ks, d :: ds => do let d' ← convertArg k d; let r ← convArgsRev ks ds; pure (d' :: r)
  | _ :: _, [] => .error "Stack underflow"

mutual
/-- tree evaluation with the machine's primitives (conversion, comparison and function bodies
    are literally those of the machine) -/
def evalM (env : Env) : Expr → M Datum
  | .num x => pure (.num x)
  | .lit s => pure (.lit s)
  | .env id => pure (env id)
  | .neg e => do let v ← evalM env e; let x ← v.toNum; pure (.num (SF.neg x))
  | .bin op a b => do let x ← evalM env a; let y ← evalM env b; binM op x y
  | .call f args => do
    let vs ← evalListM env args
    -- the machine pops `f.sig.1.length` arguments, last first
    let cs ← convArgsRev f.sig.1.reverse vs.reverse
    bltin f cs.reverse
def evalListM (env : Env) : List Expr → M (List Datum)
  | [] => pure []
  | e :: es => do let v ← evalM env e; let vs ← evalListM env es; pure (v :: vs)
end

/- arity-correct calls (what `CodeBltin` enforces at compile time) -/
mutual
def WellFormed : Expr → Prop
  | .num _ | .lit _ | .env _ => True
  | .neg e => WellFormed e
  | .bin _ a b => WellFormed a ∧ WellFormed b
  | .call f args => args.length = f.sig.1.length ∧ WellFormedList args
def WellFormedList : List Expr → Prop
  | [] => True
  | e :: es => WellFormed e ∧ WellFormedList es
end

theorem exec_cons (env : Env) (i : Instr) (is : List Instr) (st : St) :
    exec env (i :: is) st = step env i st >>= fun st' => exec env is st' := rfl

theorem exec_append (env : Env) (p q : List Instr) (st : St) :
    exec env (p ++ q) st = (exec env p st >>= fun st' => exec env q st') := by
  induction p generalizing st with
  | nil => rfl
  | cons i p ih => simp only [List.cons_append, exec_cons, ih, bind_assoc]

@[simp] theorem bind_ok {α β} (a : α) (f : α → M β) : ((Except.ok a : M α) >>= f) = f a := rfl
@[simp] theorem bind_err {α β} (e : String) (f : α → M β) : ((Except.error e : M α) >>= f) = Except.error e := rfl
@[simp] theorem pure_eq_ok {α} (a : α) : (pure a : M α) = Except.ok a := rfl

/-! The primitives on a stack that holds the operands (used by both machines). -/

theorem popNum_cons (d : Datum) (σ : List Datum) : popNum (d :: σ) = d.toNum >>= fun x => pure (x, σ) := rfl
theorem popBool_cons (d : Datum) (σ : List Datum) : popBool (d :: σ) = d.toBool >>= fun x => pure (x, σ) := rfl

theorem stepBin_eq (op : BinOp) (a b : Datum) (σ : List Datum) :
    stepBin op (b :: a :: σ) = binM op a b >>= fun v => pure (v :: σ) := by
  unfold stepBin binM
  cases op <;> simp only [popNum_cons, popBool_cons, pop, bind_assoc, pure_bind, ok_bind]

theorem popArgsRev_append (ks : List ArgKind) (ds σ : List Datum) (h : ds.length = ks.length) :
    popArgsRev ks (ds ++ σ) = (convArgsRev ks ds >>= fun cs => pure (cs, σ)) := by
  induction ks generalizing ds with
  | nil => cases ds with
    | nil => rfl
    | cons d ds => cases h
  | cons k ks ih => cases ds with
    | nil => cases h
    | cons d ds =>
      simp only [List.cons_append, popArgsRev, pop, convArgsRev, ih ds (Nat.succ.inj h), bind_assoc, ok_bind, YV.pure_eq_ok]

theorem popArgs_eq (ks : List ArgKind) (vs σ : List Datum) (h : vs.length = ks.length) :
    popArgs ks (vs.reverse ++ σ) = convArgsRev ks.reverse vs.reverse >>= fun cs => pure (cs.reverse, σ) := by
  simp only [popArgs, popArgsRev_append ks.reverse vs.reverse σ (by simp only [List.length_reverse, h]), bind_assoc,
    pure_bind]

theorem evalListM_length (env : Env) (es : List Expr) (vs : List Datum) (h : evalListM env es = .ok vs) :
    vs.length = es.length := by
  induction es generalizing vs with
  | nil => cases h; rfl
  | cons e es ih =>
    obtain ⟨v, _, h⟩ := bind_eq_ok.mp h
    obtain ⟨ws, hl, ⟨⟩⟩ := bind_eq_ok.mp h
    exact congrArg (· + 1) (ih ws hl)

/- Each case pushes the recursive calls through the code with `bind_assoc`; only a call looks at the evaluated
   arguments (their number is what `popArgs` needs). -/
mutual
theorem exec_compile (env : Env) (e : Expr) (hw : WellFormed e) (k : List Instr) (st : St) :
    exec env (compile e ++ k) st =
      (evalM env e >>= fun v => exec env k { st with stack := v :: st.stack }) := by
  cases e with
  | num x => rfl
  | lit s => rfl
  | env id => rfl
  | neg a =>
    simp only [compile, evalM, List.append_assoc, exec_compile env a hw, List.singleton_append, exec_cons, step.eq_def,
      popNum_cons, bind_assoc, pure_bind]
  | bin op a b =>
    simp only [compile, evalM, List.append_assoc, exec_compile env a hw.1, exec_compile env b hw.2,
      List.singleton_append, exec_cons, step.eq_def, stepBin_eq, bind_assoc, pure_bind]
  | call f args =>
    simp only [compile, evalM, List.append_assoc, exec_compileList env args hw.2]
    cases hl : evalListM env args with
    | error e => rfl
    | ok vs =>
      simp only [ok_bind, List.singleton_append, exec_cons, step.eq_def,
        popArgs_eq _ vs _ ((evalListM_length env args vs hl).trans hw.1), bind_assoc, pure_bind]
theorem exec_compileList (env : Env) (es : List Expr) (hw : WellFormedList es) (k : List Instr) (st : St) :
    exec env (compileList es ++ k) st =
      (evalListM env es >>= fun vs => exec env k { st with stack := vs.reverse ++ st.stack }) := by
  cases es with
  | nil => rfl
  | cons e es =>
    simp only [compileList, evalListM, List.append_assoc, exec_compile env e hw.1, exec_compileList env es hw.2,
      bind_assoc, pure_bind, List.reverse_cons, List.append_assoc, List.singleton_append]
end

end YV.X
