/-
  Proofs.YCompile — compiling with a filter = compiling without and pruning top-down.

  `build` does the same four things on every kind of node: it works out the inherited properties, builds the
  children, checks what the kind requires of them, and assembles the node.  `build_ok_iff` says so once, in terms
  of `A.kids`; the facts about whole built trees (`build_prune_both`, and `build_shape_both` in Proofs.YCfg) are
  inductions over the definition tree (`A.induct₂`) with that one case for the node.
-/
import YV.Model.YUses
import YV.Proofs.Except
namespace YV.C
open YV YV.Y YV.SC

@[simp] theorem ebind_ok {α β} (a : α) (f : α → Except String β) : ((Except.ok a : Except String α) >>= f) = f a := rfl
@[simp] theorem ebind_err {α β} (e : String) (f : α → Except String β) :
    ((Except.error e : Except String α) >>= f) = Except.error e := rfl
@[simp] theorem epure {α} (a : α) : (pure a : Except String α) = Except.ok a := rfl

/-- a filter that looks at `config` only (IsConfig, IsState, their Include / Exclude combinations; the opd
    filters are constant on the node kinds of this model) -/
def CfgOnly (f : Attr → Bool) : Prop := ∀ a b : Attr, a.cfg = b.cfg → f a = f b

/-- induction over a list of siblings that also goes into the children of its head (the schema of `SN.forest`,
    `DN.forest`) -/
theorem A.forest {Q : List A → Prop} (nil : Q []) (cons : ∀ x r, Q x.kids → Q r → Q (x :: r)) : ∀ l, Q l :=
  A.rec_1 (motive_1 := fun x => Q x.kids) (motive_2 := Q) (fun _ _ _ _ ih => ih) (fun _ _ _ _ _ _ ih => ih)
    (fun _ _ _ _ => nil) (fun _ _ _ _ => nil) (fun _ _ _ _ _ ih => ih) (fun _ _ _ ih => ih) nil cons

theorem CN.forest {Q : List CN → Prop} (nil : Q []) (cons : ∀ x r, Q x.kids → Q r → Q (x :: r)) : ∀ l, Q l :=
  CN.rec_1 (motive_1 := fun x => Q x.kids) (motive_2 := Q) (fun _ _ ih => ih) nil cons

/-- with a property of the node that follows from the one of its children -/
theorem A.induct₂ {P : A → Prop} {Q : List A → Prop} (node : ∀ a, Q a.kids → P a) (nil : Q [])
    (cons : ∀ a r, P a → Q r → Q (a :: r)) : (∀ a, P a) ∧ ∀ l, Q l :=
  have hl := A.forest nil fun a r hk hr => cons a r (node a hk) hr
  ⟨fun a => node a (hl a.kids), hl⟩

theorem meta_setMeta (a : A) (m : Meta) : (a.setMeta m).meta = m := by cases a <;> rfl

theorem setMeta_meta (a : A) : a.setMeta a.meta = a := by cases a <;> rfl

theorem setMeta_kids (a : A) (m : Meta) : (a.setMeta m).kids = a.kids := by cases a <;> rfl

theorem setKids_meta (a : A) (ks : List A) : (a.setKids ks).meta = a.meta := by cases a <;> rfl

theorem setKids_kids (a : A) : a.setKids a.kids = a := by cases a <;> rfl

theorem setRefine_kids (a : A) (p : RProp) (v : Bytes) : (setRefine a p v).kids = a.kids := by
  cases p <;> cases a <;> rfl

theorem setRefine_meta (a : A) (p : RProp) (v : Bytes) : ∃ c, (setRefine a p v).meta = { a.meta with cfg := c } := by
  cases p <;> cases a <;> exact ⟨_, rfl⟩

theorem firstDup_none_iff : ∀ l : List Tok, firstDup l = none ↔ l.Nodup
  | [] => by simp [firstDup]
  | x :: r => by
    simp only [firstDup, List.nodup_cons]
    by_cases h : x ∈ r
    · simp [h]
    · simp [h, firstDup_none_iff r]

theorem checkNames_ok_iff {l : List Tok} {u : Unit} : checkNames l = .ok u ↔ l.Nodup := by
  unfold checkNames
  rw [← firstDup_none_iff]
  cases firstDup l <;> simp

theorem prune_attr (f : Attr → Bool) (c : CN) : (prune f c).attr = c.attr := by
  cases c; rfl

theorem pruneKids_cons (f : Attr → Bool) (c : CN) (r : List CN) :
    pruneKids f (c :: r) = if f c.attr then prune f c :: pruneKids f r else pruneKids f r := by
  cases c; rw [pruneKids, prune]; rfl

theorem pruneKids_eq (f : Attr → Bool) : ∀ ks : List CN, pruneKids f ks = (ks.filter (f ·.attr)).map (prune f)
  | [] => by simp [pruneKids]
  | c :: r => by
    rw [pruneKids_cons, List.filter_cons, pruneKids_eq f r]
    split <;> rfl

theorem names_prune (f : Attr → Bool) (ks : List CN) :
    (dataNames (pruneKids f ks)).Sublist (dataNames ks) ∧
      (dataCaseNames (pruneKids f ks)).Sublist (dataCaseNames ks) := by
  induction ks using CN.forest with
  | nil => simp [pruneKids]
  | cons x r ihk ihr =>
    obtain ⟨a, kids⟩ := x
    simp only [pruneKids, dataNames, dataCaseNames]
    split
    · simp only [dataNames, dataCaseNames]
      refine ⟨.append ?_ ihr.1, .append ?_ ihr.2⟩
      · split; exact ihk.2; exact .refl _
      · split; exact ihk.1; exact .refl _
    · exact ⟨ihr.1.trans (List.sublist_append_right _ _), ihr.2.trans (List.sublist_append_right _ _)⟩

theorem kidMarks_prune (f : Attr → Bool) (ks : List CN) : (kidMarks (pruneKids f ks)).Sublist (kidMarks ks) := by
  simp only [kidMarks, pruneKids_eq, List.map_map, Function.comp_def, prune_attr]
  exact List.filter_sublist.map _

theorem choiceMarks_prune (f : Attr → Bool) (ks : List CN) : (choiceMarks (pruneKids f ks)).Sublist (choiceMarks ks) := by
  simp only [choiceMarks, pruneKids_eq, List.filterMap_map, Function.comp_def, prune_attr]
  exact List.filter_sublist.filterMap _

theorem choiceMarks_sub_kidMarks : ∀ ks : List CN, (choiceMarks ks).Sublist (kidMarks ks)
  | [] => .slnil
  | k :: r => by
    have ih := choiceMarks_sub_kidMarks r
    simp only [choiceMarks, kidMarks, List.filterMap_cons, List.map_cons] at ih ⊢
    by_cases hk : k.attr.kind = .choice
    · simp only [hk, if_true]; exact ih.cons_cons _
    · simp only [hk, if_false]; exact ih.cons _

theorem flatNames_sub_caseKidNames (ks : List CN) : (flatNames ks).Sublist (caseKidNames ks) :=
  (choiceMarks_sub_kidMarks ks).append (.refl _)

theorem flatNames_prune (f : Attr → Bool) (ks : List CN) : (flatNames (pruneKids f ks)).Sublist (flatNames ks) :=
  (choiceMarks_prune f ks).append (names_prune f ks).1

theorem flatCaseNames_prune (f : Attr → Bool) (ks : List CN) : (flatCaseNames (pruneKids f ks)).Sublist (flatCaseNames ks) :=
  (kidMarks_prune f ks).append (names_prune f ks).2

theorem caseKidNames_prune (f : Attr → Bool) (ks : List CN) : (caseKidNames (pruneKids f ks)).Sublist (caseKidNames ks) :=
  (kidMarks_prune f ks).append (names_prune f ks).1

theorem any_pruneKids_of_all (f : Attr → Bool) (p : CN → Bool) (hp : ∀ c, p (prune f c) = p c) (ks : List CN)
    (h : ∀ k ∈ ks, f k.attr = true) : (pruneKids f ks).any p = ks.any p := by
  rw [pruneKids_eq, List.filter_eq_self.2 h, List.any_map]
  exact congrArg (ks.any ·) (funext hp)

theorem getStatus_ok {m : Meta} {s s' : Nat} (h : getStatus m s = .ok s') : s ≤ s' := by
  unfold getStatus at h
  split at h
  · simp only [ite_err_eq_ok, Except.ok.injEq] at h; omega
  · cases h; exact Nat.le_refl _

theorem getConfig_ok {m : Meta} {c c' : Bool} (h : getConfig m c = .ok c') : (!c' || c) = true := by
  unfold getConfig at h
  split at h
  next x _ =>
    simp only [ite_err_eq_ok, Except.ok.injEq] at h
    obtain ⟨h1, rfl⟩ := h; revert h1; cases c <;> cases x <;> simp
  next => cases h; cases c <;> rfl

theorem inherit_ok {m : Meta} {inh i : Inh} :
    inherit m inh = .ok i ↔ getStatus m inh.st = .ok i.st ∧ getConfig m inh.cfg = .ok i.cfg := by
  cases i
  simp only [inherit, bind_eq_ok, epure, Except.ok.injEq, Inh.mk.injEq, ← and_assoc, exists_and_right, exists_eq_right]

theorem inherit_cfg_none {m : Meta} {inh i : Inh} (hm : m.cfg = none) (h : inherit m inh = .ok i) : i.cfg = inh.cfg := by
  have := (inherit_ok.1 h).2
  simp only [getConfig, hm, Except.ok.injEq] at this
  exact this.symm

/-- the statements a node inherits through: `config` is not a substatement of case -/
def A.inhMeta : A → Meta
  | .case _ m _ => { m with cfg := none }
  | a => a.meta

/-- the attributes `build` gives the node, `i` being the properties it has inherited or set -/
def A.attr (i : Inh) : A → Attr
  | .container n m pr _ => { kind := .container, name := n, cfg := i.cfg, st := i.st, flag := pr, ns := m.ns }
  | .list n m keys mn mx _ => { kind := .list, name := n, cfg := i.cfg, st := i.st, keys := keys, mn := mn, mx := mx, ns := m.ns }
  | .leaf n m mand d => { kind := .leaf, name := n, cfg := i.cfg, st := i.st, flag := mand, dflt := d, ns := m.ns }
  | .leafList n m mn mx => { kind := .leafList, name := n, cfg := i.cfg, st := i.st, mn := mn, mx := mx, ns := m.ns }
  | .choice n m mand d _ => { kind := .choice, name := n, cfg := i.cfg, st := i.st, flag := mand, dflt := d, ns := m.ns }
  | .case n m _ => { kind := .case, name := n, cfg := i.cfg, st := i.st, ns := m.ns }

/-- what `build` requires of a node whose children have been built to `ks` (the default case of a choice is
    looked for only when the filter keeps the choice: `checkChoiceDefaultCaseExists`) -/
def A.accepts (f : Attr → Bool) (i : Inh) (ks : List CN) : A → Prop
  | .container .. | .list .. => (flatNames ks).Nodup
  | .leaf _ _ mand d => ¬(mand && d.isSome) = true
  | .leafList .. => True
  | a@(.choice _ _ mand d _) => ¬(d.isSome && mand) = true ∧ (flatCaseNames ks).Nodup ∧
      ∀ dc, d = some dc → f (a.attr i) = true → (ks.any fun k => k.attr.name = dc) = true
  | .case .. => (caseKidNames ks).Nodup

theorem A.attr_cfg (a : A) (i : Inh) : (a.attr i).cfg = i.cfg := by cases a <;> rfl
theorem A.attr_st (a : A) (i : Inh) : (a.attr i).st = i.st := by cases a <;> rfl

theorem build_ok_iff {f : Attr → Bool} {env : FeatEnv} {inh : Inh} {a : A} {c : CN} :
    build f env inh a = .ok c ↔ ∃ i, inherit a.inhMeta inh = .ok i ∧ ∃ ks, buildKids f env i a.kids = .ok ks ∧
      a.accepts f i ks ∧ .mk (a.attr i) ks = c := by
  -- unfolding both sides and inverting each `do` step leaves the same conjunction up to the order of ∃ and ∧;
  -- a choice also has the `match` on its default to split, and its guards as Bool connectives to turn into ∧ / ¬
  cases a with
  | choice n m mand d cases =>
    simp only [build, bind_eq_ok, ite_err_eq_ok, checkNames_ok_iff, exists_const, A.inhMeta, A.kids, A.accepts,
      A.attr, A.meta]
    cases d with
    | none => simp only [epure, Except.ok.injEq, reduceCtorEq, false_imp_iff, implies_true, and_true, and_assoc]
    | some dc =>
      simp only [ite_err_eq_ok, epure, Except.ok.injEq, Option.some.injEq, forall_eq', and_assoc, Bool.and_eq_true,
        Bool.not_eq_true', not_and, Bool.not_eq_false]
  | _ =>
    simp only [build, buildKids, bind_eq_ok, ite_err_eq_ok, checkNames_ok_iff, exists_const, exists_eq_left', true_and,
      epure, Except.ok.injEq, A.inhMeta, A.kids, A.accepts, A.attr, A.meta]

theorem buildKids_cons (f : Attr → Bool) (env : FeatEnv) (inh : Inh) (a : A) (r : List A) :
    buildKids f env inh (a :: r) =
      (do let ig ← ignoredM env a.meta inh.st
          if ig then buildKids f env inh r
          else do
            let c ← build f env inh a
            let rest ← buildKids f env inh r
            pure (if f c.attr then c :: rest else rest)) := rfl

theorem buildKids_cons_ok {f : Attr → Bool} {env : FeatEnv} {inh : Inh} {a : A} {r : List A} {cs : List CN} :
    buildKids f env inh (a :: r) = .ok cs ↔ ∃ ig, ignoredM env a.meta inh.st = .ok ig ∧
      if ig then buildKids f env inh r = .ok cs
      else ∃ c, build f env inh a = .ok c ∧ ∃ rest, buildKids f env inh r = .ok rest ∧
        (if f c.attr then c :: rest else rest) = cs := by
  simp only [buildKids_cons, bind_eq_ok]
  refine exists_congr fun ig => and_congr_right fun _ => ?_
  cases ig <;> simp [bind_eq_ok]

theorem compile_ok_iff {f : Attr → Bool} {env : FeatEnv} {top : List A} {cs : List CN} :
    compile f env top = .ok cs ↔ buildKids f env {} top = .ok cs ∧ (flatNames cs).Nodup := by
  simp only [compile, bind_eq_ok, checkNames_ok_iff, exists_const, epure, Except.ok.injEq, exists_eq_right_right]

theorem build_names (f : Attr → Bool) (env : FeatEnv) (inh : Inh) (a : A) (at_ : Attr) (ks : List CN)
    (h : build f env inh a = .ok (.mk at_ ks)) :
    (at_.kind = .choice → (flatCaseNames ks).Nodup) ∧ (at_.kind ≠ .choice → (flatNames ks).Nodup) := by
  obtain ⟨i, -, ks', hk, hacc, he⟩ := build_ok_iff.1 h
  obtain ⟨rfl, rfl⟩ := CN.mk.inj he
  cases a with
  | container | list => exact ⟨nofun, fun _ => hacc⟩
  | case => exact ⟨nofun, fun _ => hacc.sublist (flatNames_sub_caseKidNames _)⟩
  | leaf | leafList => cases hk; exact ⟨nofun, fun _ => by simp [flatNames, choiceMarks, dataNames]⟩
  | choice => exact ⟨fun _ => hacc.2.1, fun h => absurd rfl h⟩

/-! ### well-formed: the children of a choice are cases (the compiler wraps a shorthand case) -/

mutual
def wfA : A → Bool
  | .container _ _ _ kids => wfKids kids
  | .list _ _ _ _ _ kids => wfKids kids
  | .choice _ _ _ _ cases => wfCases cases
  | .case _ _ kids => wfKids kids
  | _ => true
def wfKids : List A → Bool
  | [] => true
  | a :: r => wfA a && wfKids r
def wfCases : List A → Bool
  | [] => true
  | .case _ _ kids :: r => wfKids kids && wfCases r
  | _ :: _ => false
end

theorem wfCases_cons {a : A} {r : List A} (h : wfCases (a :: r) = true) :
    a.inhMeta.cfg = none ∧ wfA a = true ∧ wfCases r = true := by
  cases a with
  | case n m kids => exact ⟨rfl, Bool.and_eq_true_iff.1 h⟩
  | _ => cases h

theorem wfCases_wfKids : ∀ l : List A, wfCases l = true → wfKids l = true
  | [], _ => rfl
  | a :: r, h => by
    obtain ⟨-, ha, hr⟩ := wfCases_cons h
    exact Bool.and_eq_true_iff.2 ⟨ha, wfCases_wfKids r hr⟩

theorem wfA_kids {a : A} (h : wfA a = true) : wfKids a.kids = true := by
  cases a with
  | choice n m mand d cs => exact wfCases_wfKids cs h
  | leaf | leafList => rfl
  | _ => exact h

theorem cases_cfg (g : Attr → Bool) (env : FeatEnv) (inh : Inh) :
    ∀ (l : List A) (ks : List CN), wfCases l = true → buildKids g env inh l = .ok ks → ∀ k ∈ ks, k.attr.cfg = inh.cfg
  | [], ks, _, h => by cases h; nofun
  | a :: r, ks, hw, h => by
    obtain ⟨hc, -, hr⟩ := wfCases_cons hw
    obtain ⟨ig, -, h⟩ := buildKids_cons_ok.1 h
    cases ig
    · obtain ⟨c, hb, rest, hrest, rfl⟩ := h
      obtain ⟨i, hi, ks', -, -, rfl⟩ := build_ok_iff.1 hb
      have ih := cases_cfg g env inh r rest hr hrest
      split
      · exact List.forall_mem_cons.2 ⟨(a.attr_cfg i).trans (inherit_cfg_none hc hi), ih⟩
      · exact ih
    · exact cases_cfg g env inh r ks hr h

/-- the checks a node passed unfiltered it passes filtered: fewer names; and a choice that stays keeps all its
    cases, its default among them -/
theorem accepts_prune {f : Attr → Bool} (hf : CfgOnly f) {env : FeatEnv} {a : A} (hw : wfA a = true) {i : Inh}
    {ks : List CN} (hk : buildKids keepAll env i a.kids = .ok ks) (h : a.accepts keepAll i ks) :
    a.accepts f i (pruneKids f ks) := by
  cases a with
  | container | list => exact h.sublist (flatNames_prune f ks)
  | case => exact h.sublist (caseKidNames_prune f ks)
  | leaf | leafList => exact h
  | choice n m mand d cs =>
    refine ⟨h.1, h.2.1.sublist (flatCaseNames_prune f ks), fun dc hd hfa => ?_⟩
    rw [any_pruneKids_of_all f (fun k => decide (k.attr.name = dc)) (fun c => by rw [prune_attr]) ks]
    · exact h.2.2 dc hd rfl
    · intro k hk'
      rw [hf k.attr _ ((cases_cfg keepAll env i cs ks hw hk k hk').trans (A.attr_cfg _ i).symm)]
      exact hfa

theorem build_prune_both {f : Attr → Bool} (hf : CfgOnly f) (env : FeatEnv) :
    (∀ a, wfA a = true → ∀ inh c, build keepAll env inh a = .ok c → build f env inh a = .ok (prune f c)) ∧
    (∀ l, wfKids l = true → ∀ inh cs, buildKids keepAll env inh l = .ok cs →
      buildKids f env inh l = .ok (pruneKids f cs)) := by
  refine A.induct₂ ?_ ?_ ?_
  · intro a ih hw inh c h
    obtain ⟨i, hi, ks, hk, hacc, rfl⟩ := build_ok_iff.1 h
    exact build_ok_iff.2 ⟨i, hi, _, ih (wfA_kids hw) i ks hk, accepts_prune hf hw hk hacc, by rw [prune]⟩
  · intro _ inh cs h; cases h; rw [pruneKids]; rfl
  · intro a r iha ihr hw inh cs h
    simp only [wfKids, Bool.and_eq_true] at hw
    obtain ⟨ig, hig, h⟩ := buildKids_cons_ok.1 h
    refine buildKids_cons_ok.2 ⟨ig, hig, ?_⟩
    cases ig
    · obtain ⟨c, hc, rest, hr, rfl⟩ := h
      exact ⟨_, iha hw.1 inh c hc, _, ihr hw.2 inh rest hr, by simp [pruneKids_cons, prune_attr, keepAll]⟩
    · exact ihr hw.2 inh cs h

section main
variable (f : Attr → Bool) (hf : CfgOnly f) (env : FeatEnv)
include hf

theorem build_prune : ∀ (a : A) (inh : Inh) (c : CN), wfA a = true →
    build keepAll env inh a = .ok c → build f env inh a = .ok (prune f c) :=
  fun a inh c hw h => (build_prune_both hf env).1 a hw inh c h

end main

end YV.C
