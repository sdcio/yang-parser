/-
  Proofs.YCfg — shape of every compiled tree (config false and status are inherited downwards), which
  nodes are present, which features are in force.
-/
import YV.Spec.YCfgS
import YV.Proofs.YCompile
import YV.Proofs.Lists
namespace YV.C
open YV YV.Y YV.SC YV.CS

mutual
/-- below a config false node everything is config false; status never gets better going down -/
def wellShaped (pc : Bool) (ps : Nat) : CN → Bool
  | .mk a kids => (!a.cfg || pc) && decide (ps ≤ a.st) && wellShapedKids a.cfg a.st kids
def wellShapedKids (pc : Bool) (ps : Nat) : List CN → Bool
  | [] => true
  | c :: r => wellShaped pc ps c && wellShapedKids pc ps r
end

theorem build_shape_both (f : Attr → Bool) (env : FeatEnv) :
    (∀ a inh c, build f env inh a = .ok c → wellShaped inh.cfg inh.st c = true) ∧
    (∀ l inh cs, buildKids f env inh l = .ok cs → wellShapedKids inh.cfg inh.st cs = true) := by
  refine A.induct₂ ?_ ?_ ?_
  · intro a ih inh c h
    obtain ⟨i, hi, ks, hk, -, rfl⟩ := build_ok_iff.1 h
    have hi := inherit_ok.1 hi
    simp [wellShaped, A.attr_cfg, A.attr_st, getStatus_ok hi.1, getConfig_ok hi.2, ih i ks hk]
  · intro inh cs h; cases h; rfl
  · intro a r iha ihr inh cs h
    obtain ⟨ig, -, h⟩ := buildKids_cons_ok.1 h
    cases ig
    · obtain ⟨c, hc, rest, hr, rfl⟩ := h
      split
      · simp [wellShapedKids, iha inh c hc, ihr inh rest hr]
      · exact ihr inh rest hr
    · exact ihr inh cs h

section shape
variable (f : Attr → Bool) (env : FeatEnv)

theorem build_shape : ∀ (a : A) (inh : Inh) (c : CN), build f env inh a = .ok c → wellShaped inh.cfg inh.st c = true :=
  (build_shape_both f env).1

end shape

theorem iffLoop_ok (env : FeatEnv) (m : Meta) (pst : Nat) : ∀ (fs : List Tok) (b : Bool),
    iffLoop env m pst fs = .ok b → b = fs.any fun f => !env.enabled.contains f
  | [], b, h => by cases h; rfl
  | f :: r, b, h => by
    simp only [iffLoop, bind_eq_ok] at h
    obtain ⟨nst, -, h⟩ := h
    split at h
    · cases h
    · obtain ⟨-, h⟩ := ite_err_eq_ok.1 h
      rw [List.any_cons]
      cases hen : env.enabled.contains f <;> rw [hen] at h
      · cases h; rfl
      · exact iffLoop_ok env m pst r b h

theorem findDecl_some {decls : List FeatDecl} {k : Tok} {d : FeatDecl} (h : findDecl decls k = some d) :
    d.key = k ∧ findDecl decls d.key = some d := by
  unfold findDecl at h
  have hk : d.key = k := by simpa using List.find?_some h
  exact ⟨hk, by unfold findDecl; rw [hk]; exact h⟩

theorem inForce_succ (decls : List FeatDecl) (raw : List Tok) (n : Nat) (d : FeatDecl)
    (hd : findDecl decls d.key = some d) :
    inForce decls raw (n + 1) d.key = (raw.contains d.key && d.deps.all fun x => inForce decls raw n x) := by
  simp only [inForce, reach, hd, List.all_append, List.all_flatMap]
  rw [← all_and]

/-- `fuel - 1`: `featValid n` answers `inForce (n - 1)` (`featValid_inForce`), and this loop, run by
    `featValid (fuel + 1)`, calls `featValid fuel`; at `fuel = 0` that call fails and `ih` is empty -/
theorem featValid_loop (decls : List FeatDecl) (raw : List Tok) (fuel : Nat) (path : List Tok) (d : FeatDecl)
    (ih : ∀ (p : List Tok) (dd : FeatDecl) (b : Bool), findDecl decls dd.key = some dd →
      featValid decls raw fuel p dd = .ok b → b = inForce decls raw (fuel - 1) dd.key) :
    ∀ (deps : List Tok) (en b : Bool), featValid.loop decls raw fuel path d en deps = .ok b →
      b = (en && deps.all fun x => inForce decls raw (fuel - 1) x)
  | [], en, b, h => by simp only [featValid.loop, epure, Except.ok.injEq] at h; simp [← h]
  | dep :: r, en, b, h => by
    simp only [featValid.loop] at h
    split at h
    · cases h
    · next dd hf =>
      simp only [ite_err_eq_ok, bind_eq_ok] at h
      obtain ⟨-, v, hv, h⟩ := h
      have hdd := findDecl_some hf
      rw [featValid_loop decls raw fuel path d ih r (v && en) b h, ih _ dd v hdd.2 hv, hdd.1, List.all_cons,
        Bool.and_comm _ en, Bool.and_assoc]

theorem featValid_succ (decls : List FeatDecl) (raw : List Tok) (fuel : Nat) (path : List Tok) (d : FeatDecl) :
    featValid decls raw (fuel + 1) path d =
      if path.contains d.key then .error "Feature cyclic reference"
      else featValid.loop decls raw fuel path d (raw.contains d.key) d.deps := by
  rw [featValid]

theorem featValid_inForce (decls : List FeatDecl) (raw : List Tok) : ∀ (fuel : Nat) (path : List Tok) (d : FeatDecl) (b : Bool),
    findDecl decls d.key = some d → featValid decls raw (fuel + 1) path d = .ok b → b = inForce decls raw fuel d.key := by
  intro fuel
  induction fuel with
  | zero =>
    intro path d b hd h
    rw [featValid_succ, ite_err_eq_ok] at h
    obtain ⟨-, h⟩ := h
    cases hdeps : d.deps with
    | nil =>
      rw [hdeps] at h; simp only [featValid.loop, epure, Except.ok.injEq] at h
      simp [inForce, reach, ← h]
    | cons x r =>
      -- with no fuel left a dependency cannot be verified: the loop fails
      rw [hdeps] at h
      simp only [featValid.loop] at h
      split at h
      · cases h
      · simp [ite_err_eq_ok, featValid] at h
  | succ fuel ih =>
    intro path d b hd h
    rw [featValid_succ, ite_err_eq_ok] at h
    rw [featValid_loop decls raw (fuel + 1) path d (fun p dd b hdd hh => ih p dd b hdd hh) d.deps _ b h.2,
      inForce_succ decls raw fuel d hd]
    rfl

end YV.C
