/-
  Proofs.XCmp — string→number of the model against the grammar reading of §4.4; the three conversions of a
  single-valued operand against §4.2-4.4; and from these the comparison instruction of the model (context.go
  popCompare… / compareNodesetsAndPush) against the declarative comparison of Spec.XSem (§3.4).
-/
import YV.Spec.XSem
import YV.Proofs.Except
namespace YV.XS
open YV YV.X

theorem dropWhile_isEmpty_iff {α} (p : α → Bool) (l : List α) : (l.dropWhile p).isEmpty = l.all p := by
  induction l with
  | nil => rfl
  | cons a r ih =>
    by_cases h : p a
    · simp [List.dropWhile, h, ih]
    · simp [List.dropWhile, h]

theorem takeWhile_of_all {α} (p : α → Bool) (l : List α) (h : l.all p = true) : l.takeWhile p = l := by
  induction l with
  | nil => rfl
  | cons a r ih =>
    simp only [List.all_cons, Bool.and_eq_true] at h
    simp [List.takeWhile, h.1, ih h.2]

theorem dropWhile_head_not {α} (p : α → Bool) (l : List α) (a : α) (r : List α)
    (h : l.dropWhile p = a :: r) : p a = false := by
  have := List.head_dropWhile_not p (l := l) (by rw [h]; exact List.cons_ne_nil a r)
  simpa only [h, List.head_cons] using this

/- `sign`, `coreM`, `coreS` are the bodies of `parseXNumber` and `numberOfString` cut at the sign (so that `parseX_eq`
   and `numberOfString_eq` are `rfl`, and break when the model changes); `toSF` is the last step of
   `numberFromString`. -/
def sign (t : Str) : Bool × Str := match t with | '-' :: r => (true, r) | r => (false, r)

def coreM (neg : Bool) (r : Str) : Option (Bool × Str × Str) :=
  let ip := r.takeWhile isDigit
  let r1 := r.dropWhile isDigit
  match r1 with
  | [] => if ip.isEmpty then none else some (neg, ip, [])
  | '.' :: r2 =>
    let fp := r2.takeWhile isDigit
    let r3 := r2.dropWhile isDigit
    if !r3.isEmpty then none
    else if ip.isEmpty && fp.isEmpty then none
    else some (neg, ip, fp)
  | _ => none

def coreS (neg : Bool) (body : Str) : SF :=
  let ip := body.takeWhile isDigit
  let rest := body.dropWhile isDigit
  let mk (ip fp : Str) : SF := SF.ofDecimal neg (digitsVal (ip ++ fp)) (Int.neg (Int.ofNat fp.length))
  if !ip.isEmpty then
    match rest with
    | [] => mk ip []
    | '.' :: fr => if fr.all isDigit then mk ip fr else .nan
    | _ => .nan
  else
    match rest with
    | '.' :: fr => if !fr.isEmpty && fr.all isDigit then mk [] fr else .nan
    | _ => .nan

theorem parseX_eq (t : Str) : parseXNumber t = coreM (sign t).1 (sign t).2 := by rfl

theorem numberOfString_eq (s : Str) : numberOfString s = coreS (sign (trimXWS s)).1 (sign (trimXWS s)).2 := by rfl

def toSF : Option (Bool × Str × Str) → SF
  | none => .nan
  | some (neg, ip, fp) => SF.ofDecimal neg (digitsVal (ip ++ fp)) (Int.neg (Int.ofNat fp.length))

/-- the model's recogniser and the grammar reading of `Number` agree on every string -/
theorem core_eq (neg : Bool) (body : Str) : toSF (coreM neg body) = coreS neg body := by
  unfold coreM coreS
  dsimp only   -- the `let`s
  -- both read the same split of `body` at its first non-digit; what is left is whether the parts are empty
  generalize body.takeWhile isDigit = ip
  cases body.dropWhile isDigit with
  | nil => cases ip <;> rfl
  | cons c r2 =>
    by_cases hc : c = '.'
    · subst hc
      simp only [dropWhile_isEmpty_iff]
      by_cases hall : r2.all isDigit = true
      · rw [takeWhile_of_all _ _ hall]
        cases ip <;> cases r2 <;> simp [hall, toSF]
      · cases ip <;> simp [hall, toSF]
    · cases ip <;> simp [hc, toSF]

/-- string → number of the model is §4.4 `number()` in the variant that keeps the two spelled infinities -/
theorem numberFromString_eq (s : Str) : numberFromString s = numOfStr true s := by
  unfold numberFromString numOfStr
  simp only [numberOfString_eq, parseX_eq, ← core_eq, Bool.true_and, decide_eq_true_eq]
  rfl

/-- a data operand that converts like a single node (or an absent one) -/
def Simple : Datum → Prop
  | .invalid => False
  | .slice ds => ds.length ≤ 1
  | _ => True

theorem simple_ne_invalid {d : Datum} (h : Simple d) : d ≠ .invalid := by
  intro e; subst e; exact h

theorem toLit_spec {d : Datum} (h : Simple d) : d.toLit = .ok (stringOf (ofDatum d)) := by
  cases d with
  | invalid => exact h.elim
  | slice ds =>
    match ds, h with
    | [], _ | [_], _ => rfl
  | bool b => cases b <;> rfl
  | _ => rfl

theorem toNum_spec {d : Datum} (h : Simple d) : d.toNum = .ok (numberOf true (ofDatum d)) := by
  cases d with
  | invalid => exact h.elim
  | slice ds =>
    match ds, h with
    | [], _ | [_], _ => exact congrArg Except.ok (numberFromString_eq _)
  | bool b => cases b <;> rfl
  | num x => rfl
  | lit s | emptyNodeset => exact congrArg Except.ok (numberFromString_eq _)

theorem toBool_spec {d : Datum} (h : d ≠ .invalid) : d.toBool = .ok (booleanOf (ofDatum d)) := by
  cases d with
  | invalid => exact absurd rfl h
  | _ => rfl

theorem toNum_lit (s : Str) : (Datum.lit s).toNum = .ok (numOfStr true s) := toNum_spec (d := .lit s) trivial

theorem ofDatum_lit (s : Str) : ofDatum (.lit s) = .str s := rfl

def cmpOp (op : BinOp) : Bool := op = .eq || op = .ne || op = .lt || op = .gt || op = .le || op = .ge

theorem isRel_eq {op : BinOp} (hop : cmpOp op = true) : isRel op = (decide (op ≠ .eq) && decide (op ≠ .ne)) := by
  cases op
  case eq | ne | lt | gt | le | ge => rfl
  all_goals cases hop

/-- `cmpScalar` on data operands, with the kind tests the model uses -/
theorem cmpScalar_ofDatum (ln : Bool) (op : BinOp) (a b : Datum) :
    cmpScalar ln op (ofDatum a) (ofDatum b) =
      if isRel op then numCmp op (numberOf ln (ofDatum a)) (numberOf ln (ofDatum b))
      else if a.isBool || b.isBool then
        (if op = .eq then booleanOf (ofDatum a) == booleanOf (ofDatum b) else booleanOf (ofDatum a) != booleanOf (ofDatum b))
      else if a.isNum || b.isNum then numCmp op (numberOf ln (ofDatum a)) (numberOf ln (ofDatum b))
      else (if op = .eq then stringOf (ofDatum a) == stringOf (ofDatum b) else stringOf (ofDatum a) != stringOf (ofDatum b)) := by
  cases a <;> cases b <;> rfl

/-- the element-wise test of `compareNodesetsAndPush` (and the whole comparison of two scalars) -/
def inner (op : BinOp) (x y : Datum) : M Bool :=
  if (op ≠ .eq && op ≠ .ne) then do pure (numCmp op (← x.toNum) (← y.toNum)) else eqScalar op x y

/-- the three conversions agree with the specification's, and then both sides branch alike -/
theorem inner_spec (op : BinOp) (hop : cmpOp op = true) (x y : Datum) (hx : Simple x) (hy : Simple y) :
    inner op x y = .ok (cmpScalar true op (ofDatum x) (ofDatum y)) := by
  simp only [inner, eqScalar, cmpScalar_ofDatum, isRel_eq hop, toNum_spec hx, toNum_spec hy, toLit_spec hx, toLit_spec hy,
    toBool_spec (simple_ne_invalid hx), toBool_spec (simple_ne_invalid hy), ok_bind, YV.pure_eq_ok,
    apply_ite (Except.ok (ε := String))]

theorem anyM_lit (l : List Str) (g : Datum → M Bool) (h : Str → Bool) (hg : ∀ s, g (.lit s) = .ok (h s)) :
    (l.map Datum.lit).anyM g = .ok (l.any h) := by
  induction l with
  | nil => rfl
  | cons a r ih =>
    simp only [List.map_cons, List.anyM, hg, List.any_cons, ok_bind, ih]
    cases h a <;> rfl

theorem anyM_one (g : Datum → M Bool) (b : Datum) : [b].anyM g = g b := by
  simp only [List.anyM]
  cases g b with
  | error e => rfl
  | ok v => cases v <;> rfl

/-- the comparison instruction is the §3.4 comparison, for every pair of operands: by the kinds of the two
    operands, each side computes to the same form -/
theorem compare_spec (op : BinOp) (hop : cmpOp op = true) : ∀ (a b : Datum), a ≠ .invalid → b ≠ .invalid →
    X.compare op a b = .ok (cmp true op (ofDatum a) (ofDatum b))
  | .invalid, _, h, _ | _, .invalid, _, h => absurd rfl h
  -- an empty set on either side
  | .emptyNodeset, _, _, _ | .slice [], _, _, _ => rfl
  | .bool _, .emptyNodeset, _, _ | .lit _, .emptyNodeset, _, _ | .num _, .emptyNodeset, _, _
  | .slice (_ :: _), .emptyNodeset, _, _ => rfl
  | .bool _, .slice [], _, _ | .lit _, .slice [], _, _ | .num _, .slice [], _, _ | .slice (_ :: _), .slice [], _, _ => rfl
  -- two scalars
  | .bool _, .bool _, _, _ | .bool _, .lit _, _, _ | .bool _, .num _, _, _
  | .lit _, .bool _, _, _ | .lit _, .lit _, _, _ | .lit _, .num _, _, _
  | .num _, .bool _, _, _ | .num _, .lit _, _, _ | .num _, .num _, _, _ => inner_spec op hop _ _ trivial trivial
  -- a boolean against a non-empty set: the set counts as `true`
  | .bool x, .slice (_ :: _), _, _ => inner_spec op hop (.bool x) (.bool true) trivial trivial
  | .slice (_ :: _), .bool y, _, _ => inner_spec op hop (.bool true) (.bool y) trivial trivial
  -- otherwise some entry (some pair of entries) has to compare true
  | .slice (x :: xs), .lit _, _, _ | .slice (x :: xs), .num _, _, _ => by
    show ((x :: xs).map Datum.lit).anyM (fun a => [_].anyM (inner op a)) =
      .ok ((x :: xs).any fun s => cmpScalar true op (.str s) _)
    refine anyM_lit _ _ _ fun s => ?_
    rw [anyM_one]; exact inner_spec op hop _ _ trivial trivial
  | .lit _, .slice (y :: ys), _, _ | .num _, .slice (y :: ys), _, _ => by
    show [_].anyM (fun a => ((y :: ys).map Datum.lit).anyM (inner op a)) =
      .ok ((y :: ys).any fun t => cmpScalar true op _ (.str t))
    rw [anyM_one]; exact anyM_lit _ _ _ fun t => inner_spec op hop _ _ trivial trivial
  | .slice (x :: xs), .slice (y :: ys), _, _ => by
    show ((x :: xs).map Datum.lit).anyM (fun a => ((y :: ys).map Datum.lit).anyM (inner op a)) =
      .ok ((x :: xs).any fun s => (y :: ys).any fun t => cmpScalar true op (.str s) (.str t))
    exact anyM_lit _ _ _ fun s => anyM_lit _ _ _ fun t => inner_spec op hop _ _ trivial trivial

end YV.XS
