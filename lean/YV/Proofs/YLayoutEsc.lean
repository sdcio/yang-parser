/-
  Proofs.YLayoutEsc — the layout theorem for texts that contain the escapes \" and \\ (any number, anywhere):
  substitution and line layout do not interfere, whichever is done first, since neither pair contains a blank,
  a tab, CR or LF.  With Proofs.YLayout (the code's line loop is the specification's layout) and Proofs.YArg
  (the code's substitution is the specification's) this gives: `trimWhitespace` = `decodeDQ` on such texts,
  and so on texts without a backslash.
-/
import YV.Proofs.YLayout
namespace YV.YS
open YV YV.Y

/-- every backslash starts one of the pairs \" or \\ -/
def safe : Bytes → Bool
  | [] => true
  | 92 :: c :: r => (c = 34 || c = 92) && safe r
  | [92] => false
  | _ :: r => safe r

theorem safe_cons_ne (c : Nat) (r : Bytes) (h : c ≠ 92) : safe (c :: r) = safe r :=
  safe.eq_4 c r (fun _ _ h1 _ => h h1) (fun h1 _ => h h1)

theorem safe_pair_iff (c : Nat) (r : Bytes) : safe (92 :: c :: r) = true ↔ (c = 34 ∨ c = 92) ∧ safe r = true := by
  simp [safe]

theorem unescape_pair_safe (c : Nat) (r : Bytes) (h : c = 34 ∨ c = 92) : unescape (92 :: c :: r) = c :: unescape r := by
  rcases h with rfl | rfl <;> simp [unescape]

/-- induction along a safe text, pair by pair -/
theorem safe_induction {motive : (l : Bytes) → safe l = true → Prop} (nil : motive [] rfl)
    (pair : ∀ c r (hc : c = 34 ∨ c = 92) (hr : safe r = true), motive r hr →
      motive (92 :: c :: r) ((safe_pair_iff c r).mpr ⟨hc, hr⟩))
    (other : ∀ c r (hc : c ≠ 92) (hr : safe r = true), motive r hr → motive (c :: r) ((safe_cons_ne c r hc).trans hr))
    (l : Bytes) (hs : safe l = true) : motive l hs := by
  induction l using pair_induction 92 with
  | nil => exact nil
  | pair c r ih => exact pair c r ((safe_pair_iff c r).mp hs).1 _ (ih ((safe_pair_iff c r).mp hs).2)
  | last => cases hs
  | other c r hc ih => exact other c r hc _ (ih ((safe_cons_ne c r hc).symm.trans hs))

theorem safe_of_no92 (b : Bytes) (h : 92 ∉ b) : safe b = true := by
  induction b with
  | nil => rfl
  | cons c r ih =>
    rw [List.mem_cons, not_or] at h
    rw [safe_cons_ne c r (Ne.symm h.1)]; exact ih h.2

theorem unescape_append_safe (a b : Bytes) (h : safe a = true) : unescape (a ++ b) = unescape a ++ unescape b := by
  induction a, h using safe_induction with
  | nil => rfl
  | pair c r hc _ ih =>
    rw [List.cons_append, List.cons_append, unescape_pair_safe c _ hc, unescape_pair_safe c _ hc, ih]; rfl
  | other c r hc _ ih => rw [List.cons_append, unescape_ne c _ hc, unescape_ne c _ hc, ih]; rfl

theorem safe_append (a b : Bytes) (ha : safe a = true) (hb : safe b = true) : safe (a ++ b) = true := by
  induction a, ha using safe_induction with
  | nil => exact hb
  | pair c r hc _ ih => exact (safe_pair_iff c _).mpr ⟨hc, ih⟩
  | other c r hc _ ih => rw [List.cons_append, safe_cons_ne c _ hc]; exact ih

/-- a safe text cut in front of a byte that cannot end a pair: both halves are safe -/
theorem safe_split (a : Bytes) (x : Nat) (b : Bytes) (hx : x ≠ 34 ∧ x ≠ 92) (h : safe (a ++ x :: b) = true) :
    safe a = true ∧ safe (x :: b) = true := by
  induction a using pair_induction 92 with
  | nil => exact ⟨rfl, h⟩
  | pair c r ih =>
    have h' := (safe_pair_iff c _).mp h
    exact ⟨(safe_pair_iff c r).mpr ⟨h'.1, (ih h'.2).1⟩, (ih h'.2).2⟩
  | last => exact absurd ((safe_pair_iff x b).mp h).1 (not_or.mpr hx)
  | other c r hc ih =>
    rw [List.cons_append, safe_cons_ne c _ hc] at h
    rw [safe_cons_ne c r hc]
    exact ih h

theorem unescape_eq_nil (l : Bytes) (hs : safe l = true) (h : unescape l = []) : l = [] := by
  induction l, hs using safe_induction with
  | nil => rfl
  | pair c r hc _ _ => rw [unescape_pair_safe c r hc] at h; cases h
  | other c r hc _ _ => rw [unescape_ne c r hc] at h; cases h

theorem getLast?_unescape (l : Bytes) (hs : safe l = true) : (unescape l).getLast? = l.getLast? := by
  induction l, hs using safe_induction with
  | nil => rfl
  | pair c r hc _ ih =>
    rw [unescape_pair_safe c r hc, List.getLast?_cons_cons, List.getLast?_cons, List.getLast?_cons, ih]
  | other c r hc _ ih => rw [unescape_ne c r hc, List.getLast?_cons, List.getLast?_cons, ih]

/-- `f` gives the same whether a safe text is substituted before or after, and leaves it safe -/
def Commutes (f : Bytes → Bytes) : Prop :=
  ∀ l, safe l = true → f (unescape l) = unescape (f l) ∧ safe (f l) = true

theorem Commutes.comp {f g : Bytes → Bytes} (hf : Commutes f) (hg : Commutes g) : Commutes fun l => g (f l) :=
  fun l hl => ⟨by show g (f (unescape l)) = _; rw [(hf l hl).1, (hg _ (hf l hl).2).1], (hg _ (hf l hl).2).2⟩

theorem commutes_append (br : Bytes) (h : 92 ∉ br) : Commutes (· ++ br) :=
  fun l hl => ⟨by rw [unescape_append_safe l br hl, unescape_no92 br h], safe_append l br hl (safe_of_no92 br h)⟩

theorem commutes_stripColumns (col w : Nat) : Commutes (stripColumns col w) := by
  intro l hs
  induction l, hs using safe_induction generalizing w with
  | nil => exact ⟨rfl, rfl⟩
  | pair c r hc hr _ =>
    have hcb : blank c = false := by rcases hc with rfl | rfl <;> rfl
    rw [unescape_pair_safe c r hc, stripColumns_stop col w c _ (.inr hcb), stripColumns_stop col w 92 _ (.inr rfl),
      unescape_pair_safe c r hc]
    exact ⟨rfl, (safe_pair_iff c r).mpr ⟨hc, hr⟩⟩
  | other c r hc hr ih =>
    have hcr : safe (c :: r) = true := by rw [safe_cons_ne c r hc]; exact hr
    rw [unescape_ne c r hc]
    rcases blank_cases col w c with h | ⟨hw, rfl⟩ | ⟨hw, rfl⟩
    · rw [stripColumns_stop col w c _ h, stripColumns_stop col w c _ h, unescape_ne c r hc]
      exact ⟨rfl, hcr⟩
    · rw [stripColumns_sp col w _ hw, stripColumns_sp col w _ hw]; exact ih _
    · rw [stripColumns_tab col w _ hw, stripColumns_tab col w _ hw]
      split
      · have hk : 92 ∉ List.replicate (w + 8 - col) 32 := fun h => by cases List.eq_of_mem_replicate h
        rw [unescape_append_safe _ _ (safe_of_no92 _ hk), unescape_no92 _ hk]
        exact ⟨rfl, safe_append _ _ (safe_of_no92 _ hk) hr⟩
      · exact ih _

/-- trailing-blank stripping, read from the left -/
theorem stripTrailing_cons (c : Nat) (r : Bytes) :
    stripTrailing (c :: r) = if stripTrailing r = [] ∧ blank c = true then [] else c :: stripTrailing r := by
  unfold stripTrailing
  rw [List.reverse_cons, List.dropWhile_append]
  cases List.dropWhile (fun c => decide (c = 32) || decide (c = 9)) r.reverse with
  | nil =>
    rw [List.dropWhile_cons]
    cases hb : blank c <;> simp [show (decide (c = 32) || decide (c = 9)) = blank c from rfl, hb]
  | cons d t => simp

theorem commutes_stripTrailing : Commutes stripTrailing := by
  intro l hs
  induction l, hs using safe_induction with
  | nil => exact ⟨rfl, rfl⟩
  | pair c r hc hr ih =>
    have hcb : blank c = false := by rcases hc with rfl | rfl <;> rfl
    rw [unescape_pair_safe c r hc, stripTrailing_cons c (unescape r), stripTrailing_cons 92 (c :: r), stripTrailing_cons c r]
    simp only [hcb, show blank 92 = false from rfl, Bool.false_eq_true, and_false, ↓reduceIte]
    rw [unescape_pair_safe c _ hc, ih.1]
    exact ⟨rfl, (safe_pair_iff c _).mpr ⟨hc, ih.2⟩⟩
  | other c r hc hr ih =>
    rw [unescape_ne c r hc, stripTrailing_cons c (unescape r), stripTrailing_cons c r, ih.1]
    have hiff : (unescape (stripTrailing r) = []) ↔ (stripTrailing r = []) :=
      ⟨unescape_eq_nil _ ih.2, fun h => by rw [h]; rfl⟩
    simp only [hiff]
    split
    · exact ⟨rfl, rfl⟩
    · rw [unescape_ne c _ hc, safe_cons_ne c _ hc]
      exact ⟨rfl, ih.2⟩

theorem crSplit_unescape (l : Bytes) (hs : safe l = true) :
    crSplit (unescape l) = (unescape (crSplit l).1, (crSplit l).2) ∧ safe (crSplit l).1 = true := by
  by_cases h : l.getLast? = some 13
  · obtain ⟨b, rfl⟩ := List.getLast?_eq_some_iff.mp h
    have hb := (safe_split b 13 [] (by decide) hs).1
    rw [crSplit_cr, unescape_append_safe b [13] hb]
    exact ⟨crSplit_cr _, hb⟩
  · rw [crSplit_nocr l h, crSplit_nocr _ (by rwa [getLast?_unescape l hs])]
    exact ⟨rfl, hs⟩

theorem commutes_dedent (col i : Nat) : Commutes (dedent col i) := by
  intro l hl
  cases i with
  | zero => exact ⟨rfl, hl⟩
  | succ i => rw [dedent_succ, dedent_succ]; exact commutes_stripColumns col 0 l hl

theorem commutes_sLine (col n i : Nat) : Commutes (sLine col n i) := by
  intro l hs
  unfold sLine
  split
  · exact commutes_dedent col i l hs
  · obtain ⟨hcr, hb⟩ := crSplit_unescape l hs
    have hbr : 92 ∉ (crSplit l).2 := by rcases crSplit_snd l with h | h <;> rw [h] <;> decide
    rw [hcr]
    exact (((commutes_dedent col i).comp commutes_stripTrailing).comp (commutes_append _ hbr)) _ hb

/-- putting bytes in front of the first line: `g` in front of the source line, `g'` in front of the substituted one -/
theorem modifyHead_unescape (g g' : Bytes → Bytes) (ls : List Bytes) (hls : ∀ l ∈ ls, safe l = true)
    (hg : ∀ l, safe l = true → g' (unescape l) = unescape (g l) ∧ safe (g l) = true) :
    (ls.map unescape).modifyHead g' = (ls.modifyHead g).map unescape ∧ ∀ l ∈ ls.modifyHead g, safe l = true := by
  cases ls with
  | nil => exact ⟨rfl, hls⟩
  | cons l0 ls =>
    have h0 := hg l0 (hls l0 (List.mem_cons_self ..))
    refine ⟨by rw [List.map_cons, List.modifyHead_cons, List.modifyHead_cons, List.map_cons, h0.1], fun l hl => ?_⟩
    rcases List.mem_cons.mp hl with rfl | hl
    · exact h0.2
    · exact hls l (List.mem_cons_of_mem _ hl)

/-- `splitLF (c :: r)` puts a byte `c ≠ 10` in front of the first line of `splitLF r` (`splitLF_cons`): hence
    `modifyHead`, with `modifyHead_unescape` for what that does to the substituted lines -/
theorem splitLF_unescape (raw : Bytes) (hs : safe raw = true) :
    splitLF (unescape raw) = (splitLF raw).map unescape ∧ ∀ l ∈ splitLF raw, safe l = true := by
  induction raw, hs using safe_induction with
  | nil => exact ⟨rfl, fun l hl => by rw [splitLF_nil, List.mem_singleton] at hl; rw [hl]; rfl⟩
  | pair c r hc hr ih =>
    have hc10 : c ≠ 10 := by rcases hc with rfl | rfl <;> decide
    rw [unescape_pair_safe c r hc, splitLF_cons c, if_neg hc10, ih.1, splitLF_cons 92, if_neg (by decide),
      splitLF_cons c r, if_neg hc10, List.modifyHead_modifyHead]
    exact modifyHead_unescape _ _ _ ih.2 fun l hl =>
      ⟨(unescape_pair_safe c l hc).symm, (safe_pair_iff c l).mpr ⟨hc, hl⟩⟩
  | other c r hc hr ih =>
    rw [unescape_ne c r hc, splitLF_cons c, splitLF_cons c r, ih.1]
    split
    · exact ⟨rfl, fun l hl => (List.mem_cons.mp hl).elim (fun e => by rw [e]; rfl) (ih.2 l)⟩
    · exact modifyHead_unescape _ _ _ ih.2 fun l hl =>
        ⟨(unescape_ne c l hc).symm, by rw [safe_cons_ne c l hc]; exact hl⟩

theorem unescape_flatten (ps : List Bytes) (h : ∀ p ∈ ps, safe p = true) :
    unescape ps.flatten = (ps.map unescape).flatten := by
  induction ps with
  | nil => rfl
  | cons p r ih =>
    rw [List.flatten_cons, List.map_cons, List.flatten_cons,
      unescape_append_safe p _ (h p (List.mem_cons_self ..)), ih (fun q hq => h q (List.mem_cons_of_mem _ hq))]

/-- **substituting first and laying out afterwards equals laying out first and substituting afterwards**
    where every backslash starts `\"` or `\\`: neither pair contains a blank, a tab, CR or LF -/
theorem layout_unescape (col : Nat) (raw : Bytes) (hs : safe raw = true) :
    layout col (unescape raw) = unescape (layout col raw) := by
  obtain ⟨hlines, hsafe⟩ := splitLF_unescape raw hs
  have hline := fun (q : Bytes × Nat) (hq : q ∈ (splitLF raw).zipIdx) =>
    commutes_sLine col (splitLF raw).length q.2 q.1 (hsafe q.1 (List.fst_mem_of_mem_zipIdx hq))
  unfold layout
  rw [hlines, List.length_map, List.zipIdx_map, List.map_map, unescape_flatten, List.map_map]
  · exact congrArg List.flatten (List.map_congr_left fun q hq => (hline q hq).1)
  · intro p hp
    obtain ⟨q, hq, rfl⟩ := List.mem_map.mp hp
    exact (hline q hq).2

theorem hasEscape_safe (l : Bytes) (hs : safe l = true) : hasEscape [114] l = false := by
  induction l, hs using safe_induction with
  | nil => rfl
  | pair c r hc _ ih =>
    rw [hasEscape, ih]
    rcases hc with rfl | rfl <;> rfl
  | other c r hc _ ih => rw [hasEscape_ne [114] c r hc]; exact ih

/-- **layout with the escapes \" and \\ (RFC 6020 §6.1.3).** For every double-quoted text in which every
    backslash starts one of these two pairs, every quote column and every arrangement of lines, the code's
    decoder (substitute, then lay out) yields what the specification reads off the source (lay out, then
    substitute) -/
theorem trimWhitespace_eq_decodeDQ_safe (col : Nat) (hc : col ≥ 1) (raw : Bytes) (hs : safe raw = true) :
    trimWhitespace col raw = decodeDQ col raw :=
  trimWhitespace_eq_decodeDQ_of_comm col hc raw (hasEscape_safe raw hs) (layout_unescape col raw hs)

/-- **layout (RFC 6020 §6.1.3).** For every double-quoted text without a backslash, every quote column and
    every arrangement of lines, the code's decoder yields what the specification reads off the source -/
theorem trimWhitespace_eq_decodeDQ (col : Nat) (hc : col ≥ 1) (raw : Bytes) (h92 : ∀ x ∈ raw, x ≠ 92) :
    trimWhitespace col raw = decodeDQ col raw :=
  trimWhitespace_eq_decodeDQ_safe col hc raw (safe_of_no92 raw fun h => h92 92 h rfl)

end YV.YS
