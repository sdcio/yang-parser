/-
  Proofs.YIdem — the specification of "the defaults in use" (Spec.YDataS.defaultsS) is closed: decorating a
  decorated tree adds nothing and changes nothing.  Together with Proofs.YDeco (decoration of the model = the
  specification) this gives idempotence of `AddDefaults`.

  A second pass emits nothing because every node of the level that was absent and had a default instance is
  configured afterwards; what was added is left alone because a default instance, decorated, is itself.
-/
import YV.Proofs.YData
namespace YV.DS
open YV YV.Y YV.SC YV.D

variable {τ : Type}

theorem any_contains_iff (L : List (SN τ)) (cfg : List Tok) :
    (L.any fun n => cfg.contains n.name) = true ↔ ∃ n ∈ L.map (·.name), n ∈ cfg := by
  simp only [List.any_eq_true, List.contains_iff_mem, List.mem_map]
  exact ⟨fun ⟨x, hx, hc⟩ => ⟨x.name, ⟨x, hx, rfl⟩, hc⟩, fun ⟨n, ⟨a, ha, e⟩, hc⟩ => ⟨a, ha, e ▸ hc⟩⟩

theorem active_iff (kids : List (SN τ)) (cfg : List Tok) : active kids cfg = true ↔ ∃ n ∈ names kids, n ∈ cfg :=
  any_contains_iff (dataKids kids) cfg
theorem activeCases_iff (cases : List (SN τ)) (cfg : List Tok) :
    activeCases cases cfg = true ↔ ∃ n ∈ cnames cases, n ∈ cfg := any_contains_iff (caseKids cases) cfg

def dnames (l : List DN) : List Tok := l.map (·.name)
@[simp] theorem dnames_nil : dnames [] = [] := rfl
@[simp] theorem dnames_append (a b : List DN) : dnames (a ++ b) = dnames a ++ dnames b := by simp [dnames]

theorem dnames_sub {L : List (SN τ)} {out : List DN} (h : ∀ d ∈ out, ∃ x ∈ L, x.name = d.name) :
    ∀ n ∈ dnames out, n ∈ L.map (·.name) := by
  intro n hn
  obtain ⟨d, hd, rfl⟩ := List.mem_map.mp hn
  obtain ⟨x, hx, e⟩ := h d hd
  exact e ▸ List.mem_map_of_mem hx

theorem emS_names (cfg : List Tok) (nodes : List (SN τ)) (n : Tok) (h : n ∈ dnames (defaultsS cfg nodes)) :
    n ∈ names nodes := dnames_sub (fun d => defaultsS_names cfg d nodes) n h
theorem emA_names (cfg : List Tok) (cases : List (SN τ)) (n : Tok) (h : n ∈ dnames (defaultsActive cfg cases)) :
    n ∈ cnames cases := dnames_sub (fun d => defaultsActive_names cfg d cases) n h
theorem emD_names (dc : Tok) (cases : List (SN τ)) (n : Tok) (h : n ∈ dnames (defaultsOfCase dc cases)) :
    n ∈ cnames cases := dnames_sub (fun d => defaultsOfCase_names dc d cases) n h

/-- `c'` is `c` plus the names of what was emitted, as far as the names in `S` are concerned -/
def Upd (S c c' : List Tok) (E : List DN) : Prop := ∀ n ∈ S, (n ∈ c' ↔ n ∈ c ∨ n ∈ dnames E)

theorem Upd_self (S : List Tok) (E : List DN) : Upd S [] (dnames E) E :=
  fun _ _ => ⟨Or.inr, fun h => h.elim (fun h => nomatch h) id⟩

theorem Upd_any {L : List (SN τ)} {c c' : List Tok} {E : List DN} (h : Upd (L.map (·.name)) c c' E)
    (ha : (L.any fun n => c.contains n.name) = true) : (L.any fun n => c'.contains n.name) = true :=
  have ⟨n, hn, hc⟩ := (any_contains_iff L c).mp ha
  (any_contains_iff L c').mpr ⟨n, hn, (h n hn).mpr (Or.inl hc)⟩
theorem Upd_not_any {L : List (SN τ)} {c c' : List Tok} (h : Upd (L.map (·.name)) c c' [])
    (ha : ¬ (L.any fun n => c.contains n.name) = true) : ¬ (L.any fun n => c'.contains n.name) = true := fun ha' =>
  have ⟨n, hn, hc⟩ := (any_contains_iff L c').mp ha'
  ((h n hn).mp hc).elim (fun h1 => ha ((any_contains_iff L c).mpr ⟨n, hn, h1⟩)) (fun h1 => nomatch h1)

theorem Upd_left {S1 S2 c c' : List Tok} {E1 E2 : List DN} (hnd : (S1 ++ S2).Nodup)
    (h2 : ∀ n ∈ dnames E2, n ∈ S2) (h : Upd (S1 ++ S2) c c' (E1 ++ E2)) : Upd S1 c c' E1 :=
  fun n hn => (h n (List.mem_append_left _ hn)).trans <| or_congr_right <| by
    rw [dnames_append, List.mem_append]
    exact or_iff_left fun h => nodup_disj hnd hn (h2 n h)

theorem Upd_right {S1 S2 c c' : List Tok} {E1 E2 : List DN} (hnd : (S1 ++ S2).Nodup)
    (h1 : ∀ n ∈ dnames E1, n ∈ S1) (h : Upd (S1 ++ S2) c c' (E1 ++ E2)) : Upd S2 c c' E2 :=
  fun n hn => (h n (List.mem_append_right _ hn)).trans <| or_congr_right <| by
    rw [dnames_append, List.mem_append]
    exact or_iff_right fun h => nodup_disj hnd (h1 n h) hn

theorem defaultsActive_inactive (c : List Tok) : ∀ cases : List (SN τ), (∀ n ∈ cnames cases, n ∉ c) →
    defaultsActive c cases = [] := by
  apply cases_ind
  · exact fun _ => defaultsActive_nil c
  · intro a kids r ihr h
    rw [cnames_case] at h
    have hna : ¬ active kids c = true := fun ha =>
      have ⟨n, hn, hc⟩ := (active_iff kids c).mp ha
      h n (List.mem_append_left _ hn) hc
    rw [defaultsActive_case, if_neg hna, ihr fun n hn => h n (List.mem_append_right _ hn)]; rfl
  · intro x r hx ihr h
    rw [cnames_cons hx] at h
    rw [defaultsActive_cons hx, ihr fun n hn => h n (List.mem_cons_of_mem _ hn)]

theorem second_pass_node {x : SN τ} {c c' : List Tok}
    (h : x.name ∈ c' ↔ x.name ∈ c ∨ x.name ∈ dnames (if c.contains x.name then [] else inst x)) :
    (if c'.contains x.name then [] else inst x) = [] := by
  by_cases hc' : x.name ∈ c'
  · exact if_pos (List.contains_iff_mem.mpr hc')
  · rw [if_neg (fun hh => hc' (List.contains_iff_mem.mp hh))]
    have hn := fun hh => hc' (h.mpr hh)
    rw [if_neg (fun hh => hn (Or.inl (List.contains_iff_mem.mp hh)))] at hn
    exact List.eq_nil_iff_forall_not_mem.mpr fun d hd => hn (Or.inr (inst_name hd ▸ List.mem_map_of_mem hd))

theorem emitted_node_names {x : SN τ} (c : List Tok) : ∀ n ∈ dnames (if c.contains x.name then [] else inst x), n ∈ [x.name] := by
  intro n hn
  obtain ⟨d, hd, rfl⟩ := List.mem_map.mp hn
  split at hd
  · cases hd
  · exact List.mem_singleton.mpr (inst_name hd)

/-- a second pass emits nothing, when the configured names are those of the first pass plus what it emitted (`Upd`).
    For a choice there are two ways into the second pass: it had an active case (second part), or nothing of it was
    configured and its default case was instantiated, so that afterwards exactly the names emitted there are
    configured (third part): then the default case has become the one active case and has nothing left to emit. -/
theorem second_pass_nil : (∀ (l : List (SN τ)), wfL l → (names l).Nodup → ∀ c c', Upd (names l) c c' (defaultsS c l) → defaultsS c' l = []) ∧
    (∀ (l : List (SN τ)), wfC l → (cnames l).Nodup →
      (∀ c c', Upd (cnames l) c c' (defaultsActive c l) → defaultsActive c' l = []) ∧
      (∀ dc c', (∀ n ∈ cnames l, (n ∈ c' ↔ n ∈ dnames (defaultsOfCase dc l))) → defaultsActive c' l = [])) := by
  apply wf_ind
  · intro _ c c' _; exact defaultsS_nil c'
  · intro x r hx _ _ _ ihr hnd c c' h
    rw [names_cons hx] at hnd h
    rw [defaultsS_cons hx] at h ⊢
    have hnd' : ([x.name] ++ names r).Nodup := hnd
    rw [ihr (nodup_right hnd') c c' (Upd_right hnd' (emitted_node_names c) h), List.append_nil]
    exact second_pass_node (Upd_left hnd' (emS_names c r) h x.name (List.mem_singleton.mpr rfl))
  · intro a b d cases r hwc _ _ ihc ihr hnd c c' h
    rw [names_choice] at hnd h
    rw [defaultsS_choice] at h ⊢
    have hr : defaultsS c' r = [] := by
      refine ihr (nodup_right hnd) c c' (Upd_right hnd (fun n hn => ?_) h)
      split at hn
      · exact emA_names c cases n hn
      · cases d with
        | none => cases hn
        | some dc => exact emD_names dc cases n hn
    have hl := Upd_left hnd (emS_names c r) h
    rw [hr, List.append_nil]
    have ihc := ihc (nodup_left hnd)
    by_cases hact : activeCases cases c = true
    · rw [if_pos hact] at hl
      rw [if_pos (show activeCases cases c' = true from Upd_any (L := caseKids cases) hl hact)]
      exact ihc.1 c c' hl
    · rw [if_neg hact] at hl
      have hnc : ∀ n ∈ cnames cases, n ∉ c := fun n hn hc => hact ((activeCases_iff cases c).mpr ⟨n, hn, hc⟩)
      cases d with
      | none => rw [if_neg (show ¬ activeCases cases c' = true from Upd_not_any (L := caseKids cases) hl hact)]
      | some dc =>
        have hl' : ∀ n ∈ cnames cases, (n ∈ c' ↔ n ∈ dnames (defaultsOfCase dc cases)) := fun n hn =>
          (hl n hn).trans ⟨fun h => h.elim (fun h1 => (hnc n hn h1).elim) id, Or.inr⟩
        by_cases hact' : activeCases cases c' = true
        · rw [if_pos hact']
          exact ihc.2 dc c' hl'
        · rw [if_neg hact']
          -- nothing of the default case is configured afterwards: it had emitted nothing
          refine List.eq_nil_iff_forall_not_mem.mpr fun e he => hact' ?_
          have hn : e.name ∈ dnames (defaultsOfCase dc cases) := List.mem_map_of_mem he
          have hcn := emD_names dc cases _ hn
          exact (activeCases_iff cases c').mpr ⟨_, hcn, (hl' _ hcn).mpr hn⟩
  · intro _
    exact ⟨fun _ c' _ => defaultsActive_nil c', fun _ c' _ => defaultsActive_nil c'⟩
  · intro a kids r hwk hwr ihk ihr hnd
    rw [cnames_case] at hnd
    have ihk := ihk (nodup_left hnd)
    have ihr := ihr (nodup_right hnd)
    constructor
    · intro c c' h
      rw [cnames_case] at h
      rw [defaultsActive_case] at h ⊢
      have hE : ∀ n ∈ dnames (if active kids c = true then defaultsS c kids else []), n ∈ names kids := by
        intro n hn
        split at hn
        · exact emS_names c kids n hn
        · cases hn
      have hl := Upd_left hnd (emA_names c r) h
      rw [ihr.1 c c' (Upd_right hnd hE h), List.append_nil]
      by_cases hact : active kids c = true
      · rw [if_pos hact] at hl
        exact ite_eq_right_iff.mpr fun _ => ihk c c' hl
      · rw [if_neg hact] at hl
        rw [if_neg (show ¬ active kids c' = true from Upd_not_any (L := dataKids kids) hl hact)]
    · intro dc c' h
      rw [cnames_case, defaultsOfCase_case, List.forall_mem_append] at h
      rw [defaultsActive_case]
      by_cases hdc : a = dc
      · rw [if_pos hdc] at h
        have hr : defaultsActive c' r = [] :=
          defaultsActive_inactive c' r fun n hn hc => nodup_disj hnd (emS_names [] kids n ((h.2 n hn).mp hc)) hn
        rw [hr, List.append_nil]
        exact ite_eq_right_iff.mpr fun _ => ihk [] c' fun n hn => (h.1 n hn).trans (Upd_self _ _ n hn)
      · rw [if_neg hdc] at h
        have : ¬ active kids c' = true := by
          intro ha
          obtain ⟨n, hn, hc⟩ := (active_iff kids c').mp ha
          exact nodup_disj hnd hn (emD_names dc r n ((h.1 n hn).mp hc))
        rw [if_neg this, List.nil_append]
        exact ihr.2 dc c' h.2

theorem second_S : ∀ (nodes : List (SN τ)), wfL nodes → (names nodes).Nodup → ∀ (c c' : List Tok),
    Upd (names nodes) c c' (defaultsS c nodes) → defaultsS c' nodes = [] := second_pass_nil.1
theorem second_A : ∀ (cases : List (SN τ)), wfC cases → (cnames cases).Nodup → ∀ (c c' : List Tok),
    Upd (cnames cases) c c' (defaultsActive c cases) → defaultsActive c' cases = [] :=
  fun cases hw hnd => (second_pass_nil.2 cases hw hnd).1
/-- nothing of the choice was configured and its default case was instantiated -/
theorem second_D : ∀ (cases : List (SN τ)), wfC cases → (cnames cases).Nodup → ∀ (dc : Tok) (c' : List Tok),
    (∀ n ∈ cnames cases, (n ∈ c' ↔ n ∈ dnames (defaultsOfCase dc cases))) → defaultsActive c' cases = [] :=
  fun cases hw hnd => (second_pass_nil.2 cases hw hnd).2

theorem decorateEachS_nil (top : List (SN τ)) : decorateEachS top [] = [] := by rw [decorateEachS.eq_def]
theorem decorateEachS_cons (top : List (SN τ)) (d : DN) (r : List DN) :
    decorateEachS top (d :: r) =
      (match lookup d.name (dataKids top) with
       | some sn => decorateNodeS sn d
       | none => d) :: decorateEachS top r := by
  conv => lhs; rw [decorateEachS.eq_def]; simp only
  cases lookup d.name (dataKids top) <;> rfl
theorem decorateEachS_append (top : List (SN τ)) (a b : List DN) :
    decorateEachS top (a ++ b) = decorateEachS top a ++ decorateEachS top b := by
  induction a with
  | nil => rw [decorateEachS_nil]; rfl
  | cons d r ih => rw [List.cons_append, decorateEachS_cons, decorateEachS_cons, ih]; rfl
theorem decorateEntriesS_nil (kids : List (SN τ)) : decorateEntriesS kids [] = [] := decorateEntriesS.eq_def ..
theorem decorateEntriesS_cons (kids : List (SN τ)) (en : Tok) (ek : List DN) (v : List Bytes) (r : List DN) :
    decorateEntriesS kids (.mk en ek v :: r) = .mk en (decorateKidsS kids ek) v :: decorateEntriesS kids r :=
  decorateEntriesS.eq_def ..
theorem decorateKidsS_eq (kids : List (SN τ)) (ds : List DN) :
    decorateKidsS kids ds = decorateEachS kids ds ++ defaultsS (dnames ds) kids := by rw [decorateKidsS.eq_def]; rfl
theorem decorateNodeS_container (a : Tok) (pr : Bool) (kids : List (SN τ)) (n : Tok) (dk : List DN) (v : List Bytes) :
    decorateNodeS (.container a pr kids) (.mk n dk v) = .mk n (decorateKidsS kids dk) v := by rw [decorateNodeS.eq_def]
theorem decorateNodeS_list (a : Tok) (ks : List Tok) (mn : Nat) (mx : Option Nat) (u : List (List (List Tok)))
    (kids : List (SN τ)) (n : Tok) (es : List DN) (v : List Bytes) :
    decorateNodeS (.list a ks mn mx u kids) (.mk n es v) = .mk n (decorateEntriesS kids es) v := by rw [decorateNodeS.eq_def]
theorem decorateNodeS_leaf (a : Tok) (t : τ) (dv : Option Bytes) (m : Bool) (d : DN) :
    decorateNodeS (.leaf a t dv m) d = d := by rw [decorateNodeS.eq_def]
theorem decorateNodeS_leafList (a : Tok) (t : τ) (mn : Nat) (mx : Option Nat) (d : DN) :
    decorateNodeS (.leafList a t mn mx) d = d := by rw [decorateNodeS.eq_def]
theorem decorateNodeS_choice (a : Tok) (b : Bool) (c : Option Tok) (k : List (SN τ)) (d : DN) :
    decorateNodeS (.choice a b c k) d = d := by rw [decorateNodeS.eq_def]
theorem decorateNodeS_case (a : Tok) (k : List (SN τ)) (d : DN) :
    decorateNodeS (.case a k) d = d := by rw [decorateNodeS.eq_def]

theorem decorateNodeS_name (sn : SN τ) (d : DN) : (decorateNodeS sn d).name = d.name := by
  obtain ⟨n, dk, v⟩ := d
  rw [decorateNodeS.eq_def]
  cases sn <;> rfl

theorem decorateEachS_names (top : List (SN τ)) (ds : List DN) : dnames (decorateEachS top ds) = dnames ds := by
  induction ds with
  | nil => rw [decorateEachS_nil]
  | cons d r ih =>
    rw [decorateEachS_cons]
    simp only [dnames, List.map_cons] at ih ⊢
    rw [ih]
    congr 1
    cases lookup d.name (dataKids top) with
    | none => rfl
    | some sn => exact decorateNodeS_name sn d

/-- the nodes of the flattened map are found under their names: a default that was added is decorated again through
    the look-up of its name, and must meet the node it was made from -/
def Found (top : List (SN τ)) (l : List (SN τ)) : Prop := ∀ sn ∈ l, lookup sn.name (dataKids top) = some sn

theorem found_self (top : List (SN τ)) (h : (names top).Nodup) : Found top (dataKids top) :=
  fun sn hsn => lookup_of_nodup (dataKids top) h sn hsn

theorem decorateEachS_fix (top : List (SN τ)) : ∀ (l : List DN),
    (∀ d ∈ l, ∀ sn, lookup d.name (dataKids top) = some sn → decorateNodeS sn d = d) → decorateEachS top l = l := by
  intro l h
  induction l with
  | nil => exact decorateEachS_nil top
  | cons d r ih =>
    have ⟨hd, hr⟩ := List.forall_mem_cons.mp h
    rw [decorateEachS_cons, ih hr]
    congr 1
    cases hl : lookup d.name (dataKids top) with
    | none => rfl
    | some sn => exact hd sn hl

theorem Emits.closed {L top : List (SN τ)} {cfg : List Tok} {out : List DN} (he : Emits L cfg out) (hf : Found top L)
    (hI : ∀ x ∈ L, ∀ d ∈ inst x, decorateNodeS x d = d) : decorateEachS top out = out := by
  apply decorateEachS_fix
  intro d hd sn hl
  obtain ⟨y, hy, hi, _⟩ := he d hd
  rw [inst_name hi, hf y hy] at hl
  rw [← Option.some.inj hl]
  exact hI y hy d hi

theorem inst_closed : (∀ l : List (SN τ), wfL l → ∀ x ∈ dataKids l, ∀ d ∈ inst x, decorateNodeS x d = d) ∧
    (∀ l : List (SN τ), wfC l → ∀ x ∈ caseKids l, ∀ d ∈ inst x, decorateNodeS x d = d) := by
  apply level_forall
  intro x hx hw ih d hd
  rcases mem_inst hd with ⟨_, _, _, rfl, rfl⟩ | ⟨n, kids, rfl, rfl⟩
  · exact decorateNodeS_leaf ..
  · obtain ⟨hwk, hndk⟩ := wfN_kids hx hw
    rw [decorateNodeS_container, decorateKidsS_eq,
      ((defaults_emit kids).1 []).closed (found_self kids hndk) ih,
      second_S kids hwk hndk [] _ (Upd_self (names kids) (defaultsS [] kids)), List.append_nil]

theorem closed_S : ∀ (nodes : List (SN τ)), wfL nodes → ∀ (top : List (SN τ)), Found top (dataKids nodes) →
    ∀ (cfg : List Tok), decorateEachS top (defaultsS cfg nodes) = defaultsS cfg nodes :=
  fun nodes hw _ hf cfg => ((defaults_emit nodes).1 cfg).closed hf (inst_closed.1 nodes hw)
theorem closed_A : ∀ (cases : List (SN τ)), wfC cases → ∀ (top : List (SN τ)), Found top (caseKids cases) →
    ∀ (cfg : List Tok), decorateEachS top (defaultsActive cfg cases) = defaultsActive cfg cases :=
  fun cases hw _ hf cfg => ((defaults_emit cases).2.1 cfg).closed hf (inst_closed.2 cases hw)
theorem closed_D : ∀ (cases : List (SN τ)), wfC cases → ∀ (top : List (SN τ)), Found top (caseKids cases) →
    ∀ (dc : Tok), decorateEachS top (defaultsOfCase dc cases) = defaultsOfCase dc cases :=
  fun cases hw _ hf dc => ((defaults_emit cases).2.2 dc).closed hf (inst_closed.2 cases hw)

theorem idemK_of (kids : List (SN τ)) (hw : wfL kids) (hnd : (names kids).Nodup) (ds : List DN)
    (hE : decorateEachS kids (decorateEachS kids ds) = decorateEachS kids ds) :
    decorateKidsS kids (decorateKidsS kids ds) = decorateKidsS kids ds := by
  rw [decorateKidsS_eq kids ds]
  generalize hA : defaultsS (dnames ds) kids = A
  rw [decorateKidsS_eq, decorateEachS_append, hE]
  have hcl : decorateEachS kids A = A := by
    rw [← hA]; exact closed_S kids hw kids (found_self kids hnd) _
  rw [hcl]
  have : defaultsS (dnames (decorateEachS kids ds ++ A)) kids = [] := by
    apply second_S kids hw hnd (dnames ds)
    intro n _
    rw [dnames_append, decorateEachS_names, List.mem_append, hA]
  rw [this, List.append_nil]

/-- the walks of the decoration call one another: one induction over the data forest for the three of them -/
theorem idem_forest : ∀ ds : List DN,
    (∀ kids : List (SN τ), wfL kids → decorateEachS kids (decorateEachS kids ds) = decorateEachS kids ds) ∧
    (∀ kids : List (SN τ), wfL kids → (names kids).Nodup →
      decorateEntriesS kids (decorateEntriesS kids ds) = decorateEntriesS kids ds) ∧
    ∀ d ∈ ds, ∀ sn : SN τ, wfN sn → decorateNodeS sn (decorateNodeS sn d) = decorateNodeS sn d := by
  apply DN.forest_mk
  · exact ⟨fun kids _ => by rw [decorateEachS_nil, decorateEachS_nil],
      fun kids _ _ => by rw [decorateEntriesS_nil, decorateEntriesS_nil], fun _ h => nomatch h⟩
  · intro n k v r hk hr
    have hnode : ∀ sn : SN τ, wfN sn →
        decorateNodeS sn (decorateNodeS sn (.mk n k v)) = decorateNodeS sn (.mk n k v) := fun sn hw => by
      cases sn with
      | container a pr kids =>
        rw [decorateNodeS_container, decorateNodeS_container, idemK_of kids hw.1 hw.2 k (hk.1 kids hw.1)]
      | list a ks mn mx u kids => rw [decorateNodeS_list, decorateNodeS_list, hk.2.1 kids hw.1 hw.2]
      | _ => rw [decorateNodeS.eq_def]
    refine ⟨fun kids hw => ?_, fun kids hw hnd => ?_, List.forall_mem_cons.mpr ⟨hnode, hr.2.2⟩⟩
    · rw [decorateEachS_cons, decorateEachS_cons, hr.1 kids hw]
      congr 1
      cases hl : lookup (DN.mk n k v).name (dataKids kids) with
      | none => simp only [hl]
      | some sn =>
        simp only [decorateNodeS_name, hl]
        exact hnode sn (wfN_of_mem_dataKids kids hw sn (lookup_mem _ _ _ hl))
    · rw [decorateEntriesS_cons, decorateEntriesS_cons, hr.2.1 kids hw hnd, idemK_of kids hw hnd k (hk.1 kids hw)]

theorem idemE (kids : List (SN τ)) (hw : wfL kids) (ds : List DN) :
    decorateEachS kids (decorateEachS kids ds) = decorateEachS kids ds := (idem_forest ds).1 kids hw
theorem idemN : ∀ (sn : SN τ), wfN sn → ∀ (d : DN), decorateNodeS sn (decorateNodeS sn d) = decorateNodeS sn d :=
  fun sn hw d => (idem_forest [d]).2.2 d (List.mem_singleton.mpr rfl) sn hw
theorem idemEn (kids : List (SN τ)) (hw : wfL kids) (hnd : (names kids).Nodup) : ∀ (es : List DN),
    decorateEntriesS kids (decorateEntriesS kids es) = decorateEntriesS kids es :=
  fun es => (idem_forest es).2.1 kids hw hnd

/-- **the specification of default decoration is idempotent** on every well-formed schema and every data tree -/
theorem decorateS_idem (top : List (SN τ)) (hw : wfL top) (hnd : (names top).Nodup) (root : DN) :
    decorateS top (decorateS top root) = decorateS top root := by
  obtain ⟨n, dk, v⟩ := root
  simp only [decorateS]
  rw [idemK_of top hw hnd dk (idemE top hw dk)]

end YV.DS
