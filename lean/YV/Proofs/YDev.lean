/-
  Proofs.YDev — deviations at the level of the whole module body: walking the schema node identifier to the
  target and running the deviate processor there (`devKids`, `applyDevs`) is the edit of the source the
  specification describes (`editKids`, `editAll`), for any list of add / replace / delete deviations; and a
  `deviate not-supported` (marking the node, which the builder then skips) compiles to the same schema as the
  body with the node deleted.

  Both walks step into a node through `A.kids` / `A.setKids` (`devInto_eq`, `editInto_eq`), so each statement is
  one induction on the path and, for a step of the path, on the list of siblings.
-/
import YV.Spec.YCfgS
import YV.Proofs.YCompile
namespace YV.CS
open YV YV.Y YV.SC YV.C

theorem devNode_iff (d : Dev) (a a' : A) (hk : d.kind ≠ .notSupported) :
    devNode d a = .ok a' ↔ editNode d a = some (some a') := by
  unfold devNode editNode
  cases hkind : d.kind with
  | notSupported => exact absurd hkind hk
  | _ =>
    -- the processor is a chain of refusals, the edit one guarded result: both sides become the same conjunction
    simp only [ite_err_eq_ok, epure, Except.ok.injEq, Option.ite_none_right_eq_some, Option.some.injEq,
      Bool.and_eq_true, Bool.not_eq_true', Bool.not_eq_false, decide_eq_true_eq, Option.isNone_iff_eq_none,
      Option.isSome_iff_ne_none, ne_eq, Decidable.not_not, and_assoc]

theorem editNode_not_removed (d : Dev) (a : A) (hk : d.kind ≠ .notSupported) : editNode d a ≠ some none := by
  unfold editNode
  cases hkind : d.kind with
  | notSupported => exact absurd hkind hk
  | _ => simp only [ne_eq, Option.ite_none_right_eq_some, Option.some.injEq, reduceCtorEq, and_false, not_false_eq_true]

theorem editNode_eq (d : Dev) (a : A) (hk : d.kind ≠ .notSupported) :
    editNode d a = (devNode d a).toOption.map some := by
  cases h : devNode d a with
  | ok a' => exact (devNode_iff d a a' hk).1 h
  | error e =>
    cases h' : editNode d a with
    | none => rfl
    | some o =>
      cases o with
      | none => exact absurd h' (editNode_not_removed d a hk)
      | some a' => rw [(devNode_iff d a a' hk).2 h'] at h; cases h

theorem devInto_eq (d : Dev) (rest : List Tok) (a : A) :
    devInto d rest a = if a.augmentable then (devKids d rest a.kids).map a.setKids else .error "Invalid path" := by
  cases a <;> rfl

theorem editInto_eq (d : Dev) (rest : List Tok) (a : A) :
    editInto d rest a = if a.augmentable then (editKids d rest a.kids).map a.setKids else none := by
  cases a <;> rfl

theorem devKids_cons (d : Dev) (p : Tok) (rest : List Tok) (a : A) (r : List A) :
    devKids d (p :: rest) (a :: r) =
      if a.name = p then (if rest.isEmpty then devNode d a else devInto d rest a).map (· :: r)
      else (devKids d (p :: rest) r).map (a :: ·) := rfl

theorem editKids_cons (d : Dev) (p : Tok) (rest : List Tok) (a : A) (r : List A) :
    editKids d (p :: rest) (a :: r) =
      if a.name = p then
        (if rest.isEmpty then (editNode d a).map fun o => o.toList ++ r else (editInto d rest a).map (· :: r))
      else (editKids d (p :: rest) r).map (a :: ·) := rfl

theorem editKids_eq (d : Dev) (hk : d.kind ≠ .notSupported) (p : List Tok) :
    ∀ nodes : List A, editKids d p nodes = (devKids d p nodes).toOption := by
  induction p with
  | nil => intro nodes; cases nodes <;> rfl
  | cons q rest ihp =>
    intro nodes
    induction nodes with
    | nil => rfl
    | cons a r ihr =>
      rw [devKids_cons, editKids_cons, devInto_eq, editInto_eq]
      by_cases hn : a.name = q
      · rw [if_pos hn, if_pos hn, toOption_map]
        by_cases he : rest.isEmpty = true
        · rw [if_pos he, if_pos he, editNode_eq d a hk, Option.map_map]; rfl
        · rw [if_neg he, if_neg he]
          by_cases hg : a.augmentable = true
          · rw [if_pos hg, if_pos hg, toOption_map, ihp]
          · rw [if_neg hg, if_neg hg]; rfl
      · rw [if_neg hn, if_neg hn, toOption_map, ihr]

theorem devKids_iff (d : Dev) (hk : d.kind ≠ .notSupported) : ∀ (nodes : List A) (p : List Tok) (t : List A),
    devKids d p nodes = .ok t ↔ editKids d p nodes = some t :=
  fun nodes p t => by rw [editKids_eq d hk, toOption_eq_some]

theorem devInto_iff (d : Dev) (hk : d.kind ≠ .notSupported) : ∀ (a : A) (rest : List Tok) (a' : A),
    devInto d rest a = .ok a' ↔ editInto d rest a = some a' := by
  intro a rest a'
  rw [devInto_eq, editInto_eq, editKids_eq d hk]
  split
  · rw [← toOption_map, toOption_eq_some]
  · simp

theorem editAll_eq : ∀ (devs : List Dev), (∀ d ∈ devs, d.kind ≠ .notSupported) → ∀ top : List A,
    editAll top devs = (applyDevs top devs).toOption
  | [], _, _ => rfl
  | d :: r, h, top => by
    rw [applyDevs, editAll, editKids_eq d (h d List.mem_cons_self)]
    cases devKids d d.path top with
    | error e => rfl
    | ok t' => exact editAll_eq r (fun x hx => h x (List.mem_cons_of_mem _ hx)) t'

theorem applyDevs_iff : ∀ (devs : List Dev), (∀ d ∈ devs, d.kind ≠ .notSupported) → ∀ (top t : List A),
    applyDevs top devs = .ok t ↔ editAll top devs = some t :=
  fun devs h top t => by rw [editAll_eq devs h, toOption_eq_some]

theorem devNode_notSupported (d : Dev) (a : A) (hk : d.kind = .notSupported) :
    devNode d a = if d.alone then .ok (a.setMeta { a.meta with notSupported := true })
      else .error "No other deviate statements allowed with not-supported" := by
  simp only [devNode, hk]
  cases d.alone <;> rfl

theorem editNode_notSupported (d : Dev) (a : A) (hk : d.kind = .notSupported) :
    editNode d a = if d.alone then some none else none := by
  simp only [editNode, hk]

/-- two bodies that the builder cannot tell apart -/
def SameBuild (t' t'' : List A) : Prop := ∀ (f : Attr → Bool) (env : FeatEnv) (inh : Inh), buildKids f env inh t' = buildKids f env inh t''

theorem sameBuild_cons (a' a'' : A) (r' r'' : List A) (hm : a'.meta = a''.meta)
    (hb : ∀ f env inh, build f env inh a' = build f env inh a'') (hr : SameBuild r' r'') :
    SameBuild (a' :: r') (a'' :: r'') := by
  intro f env inh
  rw [buildKids_cons, buildKids_cons, hm, hb f env inh, hr f env inh]

theorem build_setKids_congr (a : A) {k' k'' : List A} (h : SameBuild k' k'') (f : Attr → Bool) (env : FeatEnv)
    (inh : Inh) : build f env inh (a.setKids k') = build f env inh (a.setKids k'') := by
  have h' : ∀ i, buildKids f env i k' = buildKids f env i k'' := h f env
  cases a <;> simp only [A.setKids, build, h']

/-- `ns` = not-supported (in `ns_kids`, `ns_into`) -/
theorem ns_kids (d : Dev) (hk : d.kind = .notSupported) (ha : d.alone = true) : ∀ (nodes : List A) (p : List Tok) (t' : List A),
    devKids d p nodes = .ok t' → ∃ t'', editKids d p nodes = some t'' ∧ SameBuild t' t'' := by
  intro nodes p
  induction p generalizing nodes with
  | nil => intro t' h; cases nodes <;> cases h
  | cons q rest ihp =>
    induction nodes with
    | nil => intro t' h; cases h
    | cons a r ihr =>
      intro t' h
      rw [devKids_cons, devInto_eq] at h
      rw [editKids_cons, editInto_eq]
      by_cases hn : a.name = q
      · rw [if_pos hn] at h ⊢
        obtain ⟨a', h1, rfl⟩ := map_eq_ok.1 h
        by_cases he : rest.isEmpty = true
        · -- the target: marked on one side, gone on the other; the builder skips a marked node
          rw [if_pos he] at h1 ⊢
          rw [devNode_notSupported d a hk, ha] at h1
          cases h1
          refine ⟨r, by rw [editNode_notSupported d a hk, ha]; rfl, fun f env inh => ?_⟩
          rw [buildKids_cons, meta_setMeta]
          rfl
        · rw [if_neg he] at h1 ⊢
          by_cases hg : a.augmentable = true
          · rw [if_pos hg] at h1 ⊢
            obtain ⟨k', h2, rfl⟩ := map_eq_ok.1 h1
            obtain ⟨k'', e1, e2⟩ := ihp a.kids k' h2
            exact ⟨a.setKids k'' :: r, by rw [e1]; rfl, sameBuild_cons _ _ r r
              ((setKids_meta a k').trans (setKids_meta a k'').symm) (build_setKids_congr a e2) (fun _ _ _ => rfl)⟩
          · rw [if_neg hg] at h1; cases h1
      · rw [if_neg hn] at h ⊢
        obtain ⟨r', h1, rfl⟩ := map_eq_ok.1 h
        obtain ⟨r'', e1, e2⟩ := ihr r' h1
        exact ⟨a :: r'', by rw [e1]; rfl, sameBuild_cons a a r' r'' rfl (fun _ _ _ => rfl) e2⟩

theorem ns_into (d : Dev) (hk : d.kind = .notSupported) (ha : d.alone = true) : ∀ (a : A) (rest : List Tok) (a' : A),
    devInto d rest a = .ok a' →
      ∃ a'', editInto d rest a = some a'' ∧ a'.meta = a''.meta ∧ ∀ f env inh, build f env inh a' = build f env inh a'' := by
  intro a rest a' h
  rw [devInto_eq] at h; rw [editInto_eq]
  by_cases hg : a.augmentable = true
  · rw [if_pos hg] at h ⊢
    obtain ⟨k', h1, rfl⟩ := map_eq_ok.1 h
    obtain ⟨k'', e1, e2⟩ := ns_kids d hk ha a.kids rest k' h1
    exact ⟨a.setKids k'', by rw [e1]; rfl, (setKids_meta a k').trans (setKids_meta a k'').symm, build_setKids_congr a e2⟩
  · rw [if_neg hg] at h; cases h

end YV.CS
