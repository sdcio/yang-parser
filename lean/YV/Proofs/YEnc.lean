/-
  Proofs.YEnc — decoding the JSON / RFC 7951 encoding of a well-formed tree gives the tree back (at the level
  of JSON values: the bytes ↔ values layer is the standard library's).

  Writer, reader and well-formedness all go through the children of a node by the kind the schema gives each
  name (`Kind`); each is restated node by node on that view, and the round trip is one induction over the
  forest (`DN.forest_mk`).
-/
import YV.Model.YEnc
import YV.Proofs.Forest
import YV.Proofs.Lists
namespace YV.E
open YV YV.Y YV.SC YV.D

variable {τ : Type}

/-- a value the writer can represent faithfully for its kind -/
def validValue (k : VK) (v : Bytes) : Bool :=
  match k with
  | .empty => v.isEmpty
  | .bool => v = tTrue || v = tFalse
  | _ => true

theorem decode_write (rfc : Bool) (k : VK) (v : Bytes) (hk : k ≠ .empty) (hv : validValue k v = true) :
    decodeValue (writeValue rfc k v) = some v := by
  cases k with
  | empty => exact absurd rfl hk
  | bool =>
    simp only [validValue, Bool.or_eq_true, decide_eq_true_eq] at hv
    rcases hv with h | h <;> subst h <;> rfl
  | num32 => rfl
  | num64 => cases rfc <;> rfl
  | other => rfl

theorem values_of_decode (j : J) (v : Bytes) (h : decodeValue j = some v) : values j = some [v] := by
  cases j with
  | arr l => cases h
  | _ => exact congrArg (Option.map fun v => [v]) h

/-- a leaf: one value, of any kind (an empty leaf is written [null] / null and read back as "") -/
theorem values_write (rfc : Bool) (k : VK) (v : Bytes) (hv : validValue k v = true) :
    values (writeValue rfc k v) = some [v] := by
  by_cases hk : k = .empty
  · subst hk
    simp only [validValue, List.isEmpty_iff] at hv; subst hv
    cases rfc <;> rfl
  · exact values_of_decode _ v (decode_write rfc k v hk hv)

theorem values_write_list (rfc : Bool) (k : VK) (hk : k ≠ .empty) : ∀ vals : List Bytes,
    (∀ v ∈ vals, validValue k v = true) → values (.arr (vals.map (writeValue rfc k))) = some vals :=
  fun vals hv => mapM_map_some vals (writeValue rfc k) decodeValue fun v hv' => decode_write rfc k v hk (hv v hv')

theorem stripMod_of_noColon (n : Tok) (h : n.contains 58 = false) : stripMod n = n := by
  unfold stripMod; rw [h]; rfl

theorem dropWhile_prefix (c : Nat) (a n : Tok) (ha : a.contains c = false) :
    (a ++ [c] ++ n).dropWhile (· ≠ c) = c :: n := by
  have h : ∀ x ∈ a, decide (x ≠ c) = true := fun x hx => decide_eq_true fun h =>
    Bool.eq_false_iff.mp ha (List.contains_iff_mem.mpr (h ▸ hx))
  rw [List.append_assoc, List.dropWhile_append_of_pos h]
  exact List.dropWhile_cons_of_neg (by simp)

theorem stripMod_jname (rfc : Bool) (pm md n : Tok) (hm : md.contains 58 = false)
    (hn : n.contains 58 = false) : stripMod (jname rfc pm md n) = n := by
  unfold jname
  split
  · rw [stripMod, if_pos (by simp), dropWhile_prefix 58 md n hm]
    rfl
  · exact stripMod_of_noColon n hn

/-! ### well-formed data: what a valid tree looks like to the encoders -/

mutual
def wfKids (kind : τ → VK) (kids : List (SN τ)) : List DN → Bool
  | [] => true
  | d :: r =>
    (match lookup d.name (dataKids kids), d with
     | some (.container _ _ ck), .mk n dk vals => !n.contains 58 && vals.isEmpty && wfKids kind ck dk
     | some (.list _ keys _ _ _ ck), .mk n es vals => !n.contains 58 && vals.isEmpty && wfEntries kind ck (keys.headD []) es
     | some (.leaf _ ty _ _), .mk n dk vals =>
       !n.contains 58 && dk.isEmpty && (match vals with | [v] => validValue (kind ty) v | _ => false)
     | some (.leafList _ ty _ _), .mk n dk vals =>
       !n.contains 58 && dk.isEmpty && decide (kind ty ≠ .empty) && vals.all (validValue (kind ty))
     | _, _ => false) && !(r.any fun x => x.name = d.name) && wfKids kind kids r
/-- the entries of a list: named by the value of their key leaf -/
def wfEntries (kind : τ → VK) (kids : List (SN τ)) (key : Tok) : List DN → Bool
  | [] => true
  | .mk en ek ev :: r =>
    ev.isEmpty && wfKids kind kids ek &&
      decide (((ek.find? fun (d : DN) => d.name = key).bind fun d => d.vals.head?) = some en) &&
      !(r.any fun e => e.name = en) && wfEntries kind kids key r
end


theorem obind_some {α β} (a : α) (f : α → Option β) : ((some a : Option α) >>= f) = f a := rfl

/-- what the schema makes of a data node's name (the `switch cn.(type)` of the encoders): the four kinds of data
    node with what the encoders need of each, a list with its key; `other` for a name the child map does not
    have (a choice or case is never in a child map) -/
inductive Kind (τ : Type) where
  | container (ck : List (SN τ))
  | list (key : Tok) (ck : List (SN τ))
  | leaf (ty : τ)
  | leafList (ty : τ)
  | other

def kindOf (kids : List (SN τ)) (n : Tok) : Kind τ :=
  match lookup n (dataKids kids) with
  | some (.container _ _ ck) => .container ck
  | some (.list _ keys _ _ _ ck) => .list (keys.headD []) ck
  | some (.leaf _ ty _ _) => .leaf ty
  | some (.leafList _ ty _ _) => .leafList ty
  | _ => .other

/-- the value written for a node (`none`: the writer skips it) -/
def jval (kind : τ → VK) (rfc : Bool) (mo : List Tok → Tok) (path : List Tok) (kids : List (SN τ)) :
    DN → Option J
  | .mk n dk vals =>
    match kindOf kids n with
    | .container ck => some (.obj (encKids kind rfc mo (path ++ [n]) (mo (path ++ [n])) ck dk))
    | .list _ ck => some (.arr (encEntries kind rfc mo (path ++ [n]) (mo (path ++ [n])) ck dk))
    | .leaf ty => some (match vals with
        | [] => (if rfc && kind ty = .empty then J.arr [.null] else J.null)
        | v :: _ => writeValue rfc (kind ty) v)
    | .leafList ty => some (.arr (vals.map (writeValue rfc (kind ty))))
    | .other => none

theorem encKids_cons (kind : τ → VK) (rfc : Bool) (mo : List Tok → Tok) (path : List Tok) (pm : Tok)
    (kids : List (SN τ)) (n : Tok) (dk : List DN) (vals : List Bytes) (r : List DN) :
    encKids kind rfc mo path pm kids (.mk n dk vals :: r) =
      ((jval kind rfc mo path kids (.mk n dk vals)).map fun j => (jname rfc pm (mo (path ++ [n])) n, j)).toList
        ++ encKids kind rfc mo path pm kids r := by
  -- The definition's match on `lookup` is the node function's match on `kindOf`: unfold both, split `lookup`
  -- into its seven forms, each holds by computation.  The same step proves every `_cons` equation of this kind
  -- (`wfKids_cons`, `xencKids_cons`, `xwfKids_cons`, `dropEmpty_cons`, `xwfKids0_cons`); one lemma cannot serve
  -- them all, since each definition has a matcher of its own that only computes on a constructor.
  -- `eq_def`, here and below: `rw [encKids]` would have Lean derive the numbered equations of a definition
  -- compiled by well-founded recursion, which is slow.
  rw [encKids.eq_def]
  unfold jval kindOf
  dsimp only [DN.name]
  cases lookup n (dataKids kids) with
  | none => rfl
  | some sn => cases sn <;> rfl

def decNode (kids : List (SN τ)) (n : Tok) (j : J) : Option DN :=
  match kindOf kids n, j with
  | .container ck, .obj kvs => (decKids ck kvs).map fun ks => DN.mk n ks []
  | .list key ck, .arr es => (decEntries ck key es).map fun es' => DN.mk n es' []
  | .leaf _, j => (values j).map fun vs => DN.mk n [] vs
  | .leafList _, j => (values j).map fun vs => DN.mk n [] vs
  | _, _ => none

theorem decKids_cons (kids : List (SN τ)) (k : Tok) (j : J) (r : List (Tok × J)) :
    decKids kids ((k, j) :: r) =
      if r.any (fun kv => stripMod kv.1 = stripMod k) then none else
        (decNode kids (stripMod k) j).bind fun here => (decKids kids r).bind fun rest => some (here :: rest) := by
  rw [decKids.eq_def]
  unfold decNode kindOf
  dsimp only
  -- both sides are `if _ then none else (·).bind _`; what is left is the look-up of the node
  congr 2
  cases lookup (stripMod k) (dataKids kids) with
  | none => rfl
  | some sn =>
    cases sn with
    | container => cases j <;> rfl
    | list => cases j <;> rfl
    | _ => rfl

def wfNode (kind : τ → VK) (kids : List (SN τ)) : DN → Bool
  | .mk n dk vals =>
    match kindOf kids n with
    | .container ck => !n.contains 58 && vals.isEmpty && wfKids kind ck dk
    | .list key ck => !n.contains 58 && vals.isEmpty && wfEntries kind ck key dk
    | .leaf ty => !n.contains 58 && dk.isEmpty && (match vals with | [v] => validValue (kind ty) v | _ => false)
    | .leafList ty => !n.contains 58 && dk.isEmpty && decide (kind ty ≠ .empty) && vals.all (validValue (kind ty))
    | .other => false

theorem wfKids_cons (kind : τ → VK) (kids : List (SN τ)) (n : Tok) (dk : List DN) (vals : List Bytes)
    (r : List DN) :
    wfKids kind kids (.mk n dk vals :: r) =
      (wfNode kind kids (.mk n dk vals) && !(r.any fun x => x.name = n) && wfKids kind kids r) := by
  rw [wfKids.eq_def]
  unfold wfNode kindOf
  dsimp only [DN.name]
  cases lookup n (dataKids kids) with
  | none => rfl
  | some sn => cases sn <;> rfl

theorem wfNode_name (kind : τ → VK) (kids : List (SN τ)) (n : Tok) (dk : List DN) (vals : List Bytes)
    (h : wfNode kind kids (.mk n dk vals) = true) : n.contains 58 = false := by
  -- by cases on the kind of `n`: named `k` first, so that in each case the match on it computes
  dsimp only [wfNode] at h
  generalize kindOf kids n = k at h
  cases k <;> simp only [Bool.and_eq_true, Bool.not_eq_true'] at h
  · exact h.1.1
  · exact h.1.1
  · exact h.1.1
  · exact h.1.1.1
  · cases h

/-- the members the writer produces carry the names of the nodes: a name no node has, no member has -/
theorem enc_no_name (kind : τ → VK) (rfc : Bool) (mo : List Tok → Tok) (hm : ∀ p, (mo p).contains 58 = false)
    (kids : List (SN τ)) (path : List Tok) (pm : Tok) (x : Tok) :
    ∀ (ds : List DN), wfKids kind kids ds = true → (ds.any fun d => d.name = x) = false →
      ((encKids kind rfc mo path pm kids ds).any fun kv => stripMod kv.1 = x) = false := by
  intro ds
  induction ds with
  | nil => intro _ _; rw [encKids.eq_def]; rfl
  | cons d r ih =>
    obtain ⟨n, dk, vals⟩ := d
    intro hw hx
    simp only [wfKids_cons, Bool.and_eq_true] at hw
    simp only [List.any_cons, Bool.or_eq_false_iff] at hx
    rw [encKids_cons, List.any_append, ih hw.2 hx.2, Bool.or_false]
    cases jval kind rfc mo path kids (.mk n dk vals) with
    | none => rfl
    | some j =>
      simpa [stripMod_jname rfc pm _ n (hm _) (wfNode_name kind kids n dk vals hw.1.1)] using
        (of_decide_eq_false hx.1 : ¬ n = x)

/-- **round trip (JSON values).** decoding what the writer produces for the children of a node gives the
    children back — names, values, order; likewise for the entries of a list -/
theorem dec_enc (kind : τ → VK) (rfc : Bool) (mo : List Tok → Tok) (hm : ∀ p, (mo p).contains 58 = false) :
    ∀ ds : List DN,
      (∀ (kids : List (SN τ)) path pm, wfKids kind kids ds = true →
        decKids kids (encKids kind rfc mo path pm kids ds) = some ds) ∧
      (∀ (kids : List (SN τ)) key path pm, wfEntries kind kids key ds = true →
        decEntries kids key (encEntries kind rfc mo path pm kids ds) = some ds) := by
  refine DN.forest_mk ⟨fun _ _ _ _ => by rw [encKids.eq_def, decKids.eq_def],
      fun _ _ _ _ _ => by rw [encEntries.eq_def, decEntries.eq_def]⟩
    fun n dk vals r hd hr => ⟨fun kids path pm hw => ?_, fun kids key path pm hw => ?_⟩
  · simp only [wfKids_cons, Bool.and_eq_true, Bool.not_eq_true'] at hw
    obtain ⟨⟨hn, hnd⟩, hwr⟩ := hw
    have hs := stripMod_jname rfc pm (mo (path ++ [n])) n (hm _) (wfNode_name kind kids n dk vals hn)
    have hno := enc_no_name kind rfc mo hm kids path pm n r hwr hnd
    -- the member written for the node reads as the node
    have hnode : ∃ j, jval kind rfc mo path kids (.mk n dk vals) = some j ∧
        decNode kids n j = some (.mk n dk vals) := by
      dsimp only [wfNode, jval, decNode] at hn ⊢
      generalize kindOf kids n = k at hn ⊢
      cases k <;> simp only [Bool.and_eq_true, List.isEmpty_iff] at hn
      · obtain ⟨⟨_, rfl⟩, hwk⟩ := hn
        exact ⟨_, rfl, congrArg (Option.map _) (hd.1 _ _ _ hwk)⟩
      · obtain ⟨⟨_, rfl⟩, hwk⟩ := hn
        exact ⟨_, rfl, congrArg (Option.map _) (hd.2 _ _ _ _ hwk)⟩
      · obtain ⟨⟨_, rfl⟩, hv⟩ := hn
        match vals, hv with
        | [v], hv => exact ⟨_, rfl, congrArg (Option.map _) (values_write rfc _ v hv)⟩
      · simp only [decide_eq_true_eq, List.all_eq_true] at hn
        obtain ⟨⟨⟨_, rfl⟩, hne⟩, hv⟩ := hn
        exact ⟨_, rfl, congrArg (Option.map _) (values_write_list rfc _ hne vals hv)⟩
      · cases hn
    obtain ⟨j, hj, hdj⟩ := hnode
    -- it is not repeated among the later members, and these give the siblings back
    rw [encKids_cons, hj, Option.map_some, Option.toList_some, List.singleton_append, decKids_cons, hs, hno,
      hdj, hr.1 kids path pm hwr]
    rfl
  · rw [wfEntries.eq_def] at hw
    simp only [Bool.and_eq_true, List.isEmpty_iff, decide_eq_true_eq, Bool.not_eq_true'] at hw
    obtain ⟨⟨⟨⟨rfl, hk⟩, hkey⟩, hnd⟩, hwr⟩ := hw
    rw [encEntries.eq_def]
    simp only []    -- computes the `match` on the constructor, here and wherever it stands alone
    rw [decEntries.eq_def]
    simp only [hd.1 kids path pm hk, obind_some, hkey, hr.2 kids key path pm hwr, hnd]
    rfl

theorem dec_enc_kids (kind : τ → VK) (rfc : Bool) (mo : List Tok → Tok) (hm : ∀ p, (mo p).contains 58 = false)
    (kids : List (SN τ)) :
    ∀ (path : List Tok) (pm : Tok) (ds : List DN), wfKids kind kids ds = true →
      decKids kids (encKids kind rfc mo path pm kids ds) = some ds :=
  fun path pm ds h => (dec_enc kind rfc mo hm ds).1 kids path pm h

theorem dec_enc_entries (kind : τ → VK) (rfc : Bool) (mo : List Tok → Tok) (hm : ∀ p, (mo p).contains 58 = false)
    (kids : List (SN τ)) (key : Tok) : ∀ (path : List Tok) (pm : Tok) (es : List DN), wfEntries kind kids key es = true →
      decEntries kids key (encEntries kind rfc mo path pm kids es) = some es :=
  fun path pm es h => (dec_enc kind rfc mo hm es).2 kids key path pm h

end YV.E
