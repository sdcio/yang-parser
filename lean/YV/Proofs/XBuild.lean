/-
  Proofs.XBuild — `lexAll` and `build` taken apart once: a property of every token of `lexAll` follows from one
  step of `lexCommon` (`lexAllAux_all`), and the outcome of `build` is read off the parser's result (`build_of`).
-/
import YV.Model.XParse
namespace YV.XL
open YV YV.X

theorem lexAllAux_all (strict : Bool) (g : Grammar) (pm : PfxMap) (I : LexSt → Prop) (P : LexedTok → Prop)
    (step : ∀ s, I s → I (lexCommon strict g pm s).2 ∧
      P ⟨mapTok g (lexCommon strict g pm s).1, restLen false (lexCommon strict g pm s).2,
        restLen true (lexCommon strict g pm s).2, (lexCommon strict g pm s).2.err.isSome⟩)
    (f : Nat) (s : LexSt) (h : I s) : ∀ lt ∈ (lexAllAux strict g pm f s).1, P lt := by
  have hs := step s h
  -- case1: no fuel; case2: `t` ends the list; case3: `t`, then the tokens from `s1` on
  fun_induction lexAllAux strict g pm f s with
  | case1 => exact List.forall_mem_nil _
  | case2 f s t s1 hl =>
    rw [hl] at hs
    exact List.forall_mem_singleton.mpr hs.2
  | case3 f s t s1 hl _ _ _ r _ hr ih =>
    rw [hl] at hs
    rw [hr] at ih
    exact List.forall_mem_cons.mpr ⟨hs.2, ih hs.1 (step s1 hs.1)⟩

end YV.XL

namespace YV.XP
open YV YV.X YV.XL

def parseToks (strict : Bool) (g : Grammar) (toks : List LexedTok) : P PSt :=
  match g with
  | .leafref => parseLeafrefToks toks
  | _ => parseExprToks strict toks

/-- what `build` makes of the text `bs`, given its tokens `toks` and the parser's result `r` on them: the six ways
    through `build`.  Deliberately coarse for a syntax error: which token the rest was taken from, and whether the
    error is called "lex" or "syntax", is not kept — no user needs more than that the rest is 0 or some token's. -/
inductive BuildOf (fixed : Bool) (bs : List Nat) (toks : List LexedTok) : P PSt → Built → Prop
  | empty (r : P PSt) (h : bs.isEmpty = true) : BuildOf fixed bs toks r (.error 0 "empty")
  | fuel : BuildOf fixed bs toks (.error .fuel) .diverge
  | panic (pos : Nat) (af : Bool) (rest : Nat) (hr : rest = 0 ∨ ∃ t ∈ toks, rest = if fixed then t.restFixed else t.rest)
      (h : Int.ofNat bs.length - Int.ofNat rest < 0) :
      BuildOf fixed bs toks (.error (.syntax pos af)) (.panic "slice bounds out of range in CreateProgram")
  | syn (pos : Nat) (af : Bool) (rest : Nat) (kind : String)
      (hr : rest = 0 ∨ ∃ t ∈ toks, rest = if fixed then t.restFixed else t.rest) :
      BuildOf fixed bs toks (.error (.syntax pos af)) (.error (Int.ofNat bs.length - Int.ofNat rest) kind)
  | perr (s : PSt) (m : String) (h : s.perr = some m) :
      BuildOf fixed bs toks (.ok s) (.error (Int.ofNat bs.length) ("parse:" ++ m))
  | machine (s : PSt) (h : s.perr = none) : BuildOf fixed bs toks (.ok s) (.machine s.out.reverse)

theorem build_of (strict fixed : Bool) (g : Grammar) (pm : PfxMap) (bs : List Nat) :
    BuildOf fixed bs (lexAll strict g pm bs).1 (parseToks strict g (lexAll strict g pm bs).1)
      (build strict fixed g pm bs) := by
  unfold build
  by_cases he : bs.isEmpty = true
  · rw [if_pos he]; exact .empty _ he
  rw [if_neg he]
  generalize lexAll strict g pm bs = lx
  obtain ⟨toks, _⟩ := lx
  dsimp -zeta only
  extract_lets r
  -- `r` is `parseToks strict g toks`, spelt with the `match` of `build`
  show BuildOf fixed bs toks r _
  clear_value r
  rcases r with (⟨pos, af⟩ | _) | s <;> dsimp -zeta only
  · extract_lets rest _ mark
    have hr : rest = 0 ∨ ∃ t ∈ toks, rest = if fixed then t.restFixed else t.rest := by
      unfold rest
      cases af
      · cases ht : toks[pos]? with
        | none => exact .inl rfl
        | some t => exact .inr ⟨t, List.mem_of_getElem? ht, rfl⟩
      · exact .inl rfl
    by_cases hm : mark < 0
    · rw [if_pos hm]; exact .panic pos af rest hr hm
    · rw [if_neg hm]; exact .syn pos af rest _ hr
  · exact .fuel
  · cases hp : s.perr with
    | some m => exact .perr s m hp
    | none => exact .machine s hp

theorem build_of_ok (strict fixed : Bool) (g : Grammar) (pm : PfxMap) (bs : List Nat) (h : bs.isEmpty = false)
    (s : PSt) (hs : parseToks strict g (lexAll strict g pm bs).1 = .ok s) (hp : s.perr = none) :
    build strict fixed g pm bs = .machine s.out.reverse := by
  have hof := build_of strict fixed g pm bs
  rw [hs] at hof
  generalize build strict fixed g pm bs = b at hof
  cases hof with
  | empty _ he => rw [h] at he; cases he
  | perr _ m hm => rw [hp] at hm; cases hm
  | machine => rfl

theorem build_machine (strict fixed : Bool) (g : Grammar) (pm : PfxMap) (bs : List Nat) (prog : List PI)
    (h : build strict fixed g pm bs = .machine prog) :
    ∃ s, parseToks strict g (lexAll strict g pm bs).1 = .ok s ∧ s.perr = none ∧ prog = s.out.reverse := by
  have hof := build_of strict fixed g pm bs
  rw [h] at hof
  generalize parseToks strict g (lexAll strict g pm bs).1 = r at hof ⊢
  cases hof with
  | machine s hp => exact ⟨s, rfl, hp, rfl⟩

theorem build_diverge (strict fixed : Bool) (g : Grammar) (pm : PfxMap) (bs : List Nat)
    (h : build strict fixed g pm bs = .diverge) : parseToks strict g (lexAll strict g pm bs).1 = .error .fuel := by
  have hof := build_of strict fixed g pm bs
  rw [h] at hof
  generalize parseToks strict g (lexAll strict g pm bs).1 = r at hof ⊢
  cases hof
  rfl

end YV.XP
