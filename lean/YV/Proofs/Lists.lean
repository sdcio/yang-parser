/-
  Proofs.Lists — list facts that the YANG-side proofs share and core Lean does not have: the model's split loops
  are `List.splitOn` (`splitLoop_eq`, `not_mem_of_mem_splitOn`); `all_and`; `takeWhile_append_stop`;
  `mapM_map_some`, `mapM_ite`; `zipIdx_map_idx`; `pair_induction`, the induction of the backslash-pair scanners.
-/
namespace YV

theorem splitLoop_eq (a : Nat) (go : List Nat → List (List Nat) → List Nat → List (List Nat))
    (hnil : ∀ cur acc, go cur acc [] = (cur.reverse :: acc).reverse)
    (hcons : ∀ cur acc c r, go cur acc (c :: r) = if c = a then go [] (cur.reverse :: acc) r else go (c :: cur) acc r)
    (s cur : List Nat) (acc : List (List Nat)) :
    go cur acc s = acc.reverse ++ List.splitOnPPrepend (· == a) s cur := by
  induction s generalizing cur acc with
  | nil => rw [hnil, List.reverse_cons, List.splitOnPPrepend_nil]
  | cons c r ih =>
    rw [hcons, List.splitOnPPrepend_cons_eq_if]
    by_cases h : c = a
    · rw [if_pos h, if_pos (beq_iff_eq.mpr h), ih, List.reverse_cons, List.append_assoc]; rfl
    · rw [if_neg h, if_neg (fun hb => h (beq_iff_eq.mp hb)), ih]

theorem not_mem_of_mem_splitOn (a : Nat) (s p : List Nat) (hp : p ∈ s.splitOn a) : a ∉ p := by
  -- along core's loop: `a` never enters the part being collected
  suffices h : ∀ acc, a ∉ acc → ∀ p ∈ List.splitOnPPrepend (· == a) s acc, a ∉ p from h [] List.not_mem_nil p hp
  clear hp p
  induction s with
  | nil =>
    intro acc ha p hp
    rw [List.splitOnPPrepend_nil, List.mem_singleton] at hp
    rwa [hp, List.mem_reverse]
  | cons c r ih =>
    intro acc ha p hp
    rw [List.splitOnPPrepend_cons_eq_if] at hp
    split at hp
    · rcases List.mem_cons.mp hp with rfl | hp
      · rwa [List.mem_reverse]
      · exact ih [] List.not_mem_nil p hp
    · rename_i hc
      exact ih (c :: acc) (fun h => (List.mem_cons.mp h).elim (fun e => hc (beq_iff_eq.mpr e.symm)) ha) p hp

theorem all_and {α} (l : List α) (p q : α → Bool) : l.all (fun a => p a && q a) = (l.all p && l.all q) := by
  induction l with
  | nil => rfl
  | cons a l ih => rw [List.all_cons, List.all_cons, List.all_cons, ih]; cases p a <;> cases q a <;> simp

theorem takeWhile_append_stop {α} {p : α → Bool} {l t : List α} (hl : ∀ a ∈ l, p a)
    (ht : ∀ c r, t = c :: r → p c = false) : (l ++ t).takeWhile p = l ∧ (l ++ t).dropWhile p = t := by
  rw [List.takeWhile_append_of_pos hl, List.dropWhile_append_of_pos hl]
  cases t with
  | nil => exact ⟨List.append_nil l, rfl⟩
  | cons c r =>
    have hc := Bool.eq_false_iff.1 (ht c r rfl)
    rw [List.takeWhile_cons_of_neg hc, List.dropWhile_cons_of_neg hc]
    exact ⟨List.append_nil l, rfl⟩

theorem mapM_map_some {α β} (l : List α) (g : α → β) (f : β → Option α) (h : ∀ a ∈ l, f (g a) = some a) :
    (l.map g).mapM f = some l := by
  induction l with
  | nil => rfl
  | cons a r ih =>
    rw [List.map_cons, List.mapM_cons, h a (List.mem_cons_self ..), ih fun x hx => h x (List.mem_cons_of_mem _ hx)]
    rfl

theorem zipIdx_map_idx {α β : Type} (l : List α) (k : Nat) (f : α × Nat → β) :
    ((l.zipIdx k).map f).zipIdx k = (l.zipIdx k).map (fun p => (f p, p.2)) := by
  induction l generalizing k with
  | nil => rfl
  | cons a r ih => simp only [List.zipIdx_cons, List.map_cons, ih (k + 1)]

/-- induction along the pairs in which a scanner with the escape byte `e` reads a text from the left -/
theorem pair_induction (e : Nat) {P : List Nat → Prop} (nil : P []) (pair : ∀ c r, P r → P (e :: c :: r))
    (last : P [e]) (other : ∀ c r, c ≠ e → P r → P (c :: r)) : ∀ l, P l := by
  intro l
  suffices h : P l ∧ ∀ c, P (c :: l) from h.1
  induction l with
  | nil => exact ⟨nil, fun c => if h : c = e then h ▸ last else other c [] h nil⟩
  | cons d r ih =>
    refine ⟨ih.2 d, fun c => ?_⟩
    by_cases h : c = e
    · rw [h]; exact pair d r ih.1
    · exact other c _ h (ih.2 d)

theorem mapM_ite {α β} (c : α → Bool) (f : α → β) : ∀ (l : List α),
    l.mapM (fun x => if c x then some (f x) else none) = if l.all c then some (l.map f) else none
  | [] => rfl
  | x :: r => by
    rw [List.mapM_cons, mapM_ite c f r, List.all_cons, List.map_cons]
    cases c x <;> cases r.all c <;> rfl

end YV
