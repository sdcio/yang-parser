/-
  Proofs.YValues — the derivative matcher decides the language of the expression; the depth-first
  enumeration of derived identities is the upward `base` chain; the first failing pattern; unions.
-/
import YV.Spec.YValuesS
namespace YV.VS
open YV YV.Y YV.T YV.V

theorem lang_nil_of_nullable (r : Re) (h : nullable r = true) : Lang r [] := by
  -- the cases of `nullable`, in the order of the constructors of `Re`
  fun_induction nullable r with
  | case1 | case3 | case4 | case5 => cases h
  | case2 => exact .eps
  | case6 a b iha ihb =>
    rw [Bool.and_eq_true] at h
    exact .seq (s := []) (iha h.1) (ihb h.2)
  | case7 a b iha ihb =>
    rw [Bool.or_eq_true] at h
    exact h.elim (fun h => .altL (iha h)) (fun h => .altR (ihb h))
  | case8 => exact .starNil

theorem nullable_of_lang {r : Re} {s : List Nat} (h : Lang r s) : s = [] → nullable r = true := by
  induction h with
  | eps | starNil | starCons => intro _; rfl
  | chr | any | cls => intro h; cases h
  | seq _ _ iha ihb =>
    intro h
    have := List.append_eq_nil_iff.1 h
    simp [nullable, iha this.1, ihb this.2]
  | altL _ ih | altR _ ih => intro h; simp [nullable, ih h]

theorem nullable_iff (r : Re) : nullable r = true ↔ Lang r [] :=
  ⟨lang_nil_of_nullable r, fun h => nullable_of_lang h rfl⟩

theorem lang_of_deriv (c : Nat) (r : Re) (s : List Nat) (h : Lang (deriv c r) s) : Lang r (c :: s) := by
  -- the cases of `deriv`: empty, eps; chr (`c` itself, another); any (line feed, another); cls (in, out);
  -- seq (first factor nullable, not); alt; star
  fun_induction deriv c r generalizing s with
  | case1 | case2 | case4 | case5 | case8 => cases h
  | case3 => cases h; exact .chr
  | case6 hc => cases h; exact .any hc
  | case7 neg rs hc => cases h; exact .cls hc
  | case9 a b hn iha ihb =>
    cases h with
    | altL h1 => cases h1 with | seq ha hb => exact .seq (s := c :: _) (iha _ ha) hb
    | altR h2 => exact .seq (s := []) (lang_nil_of_nullable a hn) (ihb _ h2)
  | case10 a b hn iha => cases h with | seq ha hb => exact .seq (s := c :: _) (iha _ ha) hb
  | case11 a b iha ihb =>
    cases h with
    | altL h => exact .altL (iha _ h)
    | altR h => exact .altR (ihb _ h)
  | case12 a iha => cases h with | seq ha hb => exact .starCons (s := c :: _) (iha _ ha) hb

theorem deriv_of_lang {r : Re} {w : List Nat} (h : Lang r w) :
    ∀ (c : Nat) (s : List Nat), w = c :: s → Lang (deriv c r) s := by
  induction h with
  | eps | starNil => intro c s h; cases h
  | chr => intro c s h; cases h; unfold deriv; rw [if_pos rfl]; exact .eps
  | any hc => intro c s h; cases h; unfold deriv; rw [if_neg hc]; exact .eps
  | cls hc => intro c s h; cases h; unfold deriv; rw [if_pos hc]; exact .eps
  | @seq a b s1 t ha hb iha ihb =>
    intro c s h
    unfold deriv
    cases s1 with
    | nil => rw [if_pos (nullable_of_lang ha rfl)]; exact .altR (ihb c s h)
    | cons d s1' =>
      cases h
      have h1 : Lang (.seq (deriv c a) b) (s1' ++ t) := .seq (iha c s1' rfl) hb
      split
      · exact .altL h1
      · exact h1
  | altL _ ih => intro c s h; exact .altL (ih c s h)
  | altR _ ih => intro c s h; exact .altR (ih c s h)
  | @starCons a s1 t ha hb iha ihb =>
    intro c s h
    cases s1 with
    | nil => exact ihb c s h
    | cons d s1' => cases h; exact .seq (iha c s1' rfl) hb

theorem deriv_iff (c : Nat) (r : Re) (s : List Nat) : Lang (deriv c r) s ↔ Lang r (c :: s) :=
  ⟨lang_of_deriv c r s, fun h => deriv_of_lang h c s rfl⟩

theorem reMatch_iff (r : Re) (s : List Nat) : reMatch r s = true ↔ Lang r s := by
  unfold reMatch
  induction s generalizing r with
  | nil => simpa using nullable_iff r
  | cons c s ih => simp only [List.foldl_cons]; rw [ih, deriv_iff]

theorem up_succ (ids : List Ident) (f : Nat) (i : Ident) (b : Bytes × Bytes) :
    up ids (f + 1) i b = true ↔
      ∃ p, i.base = some p ∧ (p = b ∨ ∃ k ∈ ids, k.key = p ∧ up ids f k b = true) := by
  rw [up]
  cases i.base with
  | none => exact ⟨nofun, nofun⟩
  | some p =>
    simp only [Bool.or_eq_true, decide_eq_true_eq, List.any_eq_true, Bool.and_eq_true, Option.some.injEq,
      exists_eq_left']

/-- an upward chain seen from its top: it ends in a child `j` of the base, and `i` is `j` or lies below it -/
theorem up_succ_top (ids : List Ident) (b : Bytes × Bytes) : ∀ (f : Nat) (i : Ident), i ∈ ids →
    (up ids (f + 1) i b = true ↔ ∃ j ∈ ids, j.base = some b ∧ (i = j ∨ up ids f i j.key = true))
  | 0, i, hi => by
    rw [up_succ]
    simp only [up, Bool.false_eq_true, and_false, exists_false, or_false, exists_eq_right]
    exact ⟨fun h => ⟨i, hi, h, rfl⟩, fun ⟨j, _, hb, e⟩ => e ▸ hb⟩
  | f + 1, i, hi => by
    rw [up_succ]
    constructor
    · rintro ⟨p, hp, rfl | ⟨k, hk, rfl, hu⟩⟩
      · exact ⟨i, hi, hp, .inl rfl⟩
      · obtain ⟨j, hj, hb, h⟩ := (up_succ_top ids b f k hk).1 hu
        refine ⟨j, hj, hb, .inr ((up_succ ..).2 ⟨k.key, hp, ?_⟩)⟩
        rcases h with rfl | h
        · exact .inl rfl
        · exact .inr ⟨k, hk, rfl, h⟩
    · rintro ⟨j, hj, hb, rfl | h⟩
      · exact ⟨b, hb, .inl rfl⟩
      · obtain ⟨p, hp, rfl | ⟨k, hk, rfl, hu⟩⟩ := (up_succ ..).1 h
        · exact ⟨j.key, hp, .inr ⟨j, hj, rfl, (up_succ_top ids b f j hj).2 ⟨j, hj, hb, .inl rfl⟩⟩⟩
        · exact ⟨k.key, hp, .inr ⟨k, hk, rfl, (up_succ_top ids b f k hk).2 ⟨j, hj, hb, .inr hu⟩⟩⟩

/-- the depth-first enumeration from the base downwards lists exactly the identities whose `base` chain
    leads up to it -/
theorem mem_identVals_iff (ids : List Ident) (lm : Bytes) :
    ∀ (f : Nat) (b : Bytes × Bytes) (s : Bytes),
      s ∈ identVals ids lm f b ↔ ∃ i ∈ ids, render lm i = s ∧ up ids f i b = true
  | 0, b, s => by simp [identVals, up]
  | f + 1, b, s => by
    simp only [identVals, List.mem_flatMap, List.mem_filter, List.mem_cons, decide_eq_true_eq,
      mem_identVals_iff ids lm f]
    constructor
    · rintro ⟨j, ⟨hj, hb⟩, rfl | ⟨i, hi, hr, hu⟩⟩
      · exact ⟨j, hj, rfl, (up_succ_top ids b f j hj).2 ⟨j, hj, hb, .inl rfl⟩⟩
      · exact ⟨i, hi, hr, (up_succ_top ids b f i hi).2 ⟨j, hj, hb, .inr hu⟩⟩
    · rintro ⟨i, hi, hr, hu⟩
      obtain ⟨j, hj, hb, rfl | h⟩ := (up_succ_top ids b f i hi).1 hu
      · exact ⟨i, ⟨hi, hb⟩, .inl hr.symm⟩
      · exact ⟨j, ⟨hj, hb⟩, .inr ⟨i, hi, hr, h⟩⟩

theorem firstFailing_eq (s : List Nat) : ∀ pats : List (Re × EI),
    firstFailing s pats = (pats.find? fun p => !reMatch p.1 s).map (·.2)
  | [] => rfl
  | (r, ei) :: rest => by
    rw [firstFailing, List.find?_cons, firstFailing_eq s rest]
    cases reMatch r s <;> rfl

theorem firstFailing_none (s : List Nat) (pats : List (Re × EI)) :
    firstFailing s pats = none ↔ ∀ p ∈ pats, reMatch p.1 s = true := by
  rw [firstFailing_eq, Option.map_eq_none_iff, List.find?_eq_none]
  simp only [Bool.not_eq_true, Bool.not_eq_false']

theorem firstFailing_some (s : List Nat) (pats : List (Re × EI)) (ei : EI) :
    firstFailing s pats = some ei → ∃ re, (re, ei) ∈ pats ∧ reMatch re s = false := by
  rw [firstFailing_eq, Option.map_eq_some_iff]
  rintro ⟨⟨re, _⟩, h, rfl⟩
  exact ⟨re, List.mem_of_find?_eq_some h, by simpa using List.find?_some h⟩

theorem anyAccepts_iff (ms : List VT) (s : Bytes) : anyAccepts ms s = true ↔ ∃ m ∈ ms, check m s = none := by
  induction ms with
  | nil => simp [anyAccepts]
  | cons m r ih => simp [anyAccepts, ih, Option.isNone_iff_eq_none]

end YV.VS
