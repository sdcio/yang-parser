/-
  Proofs.XLexWS — whitespace in front of a token is insignificant: with no rune held in `peek`,
  lexing `ws ++ rest` delivers the same token and leaves the same state as lexing `rest`
  (any number of blanks, tabs, CR, LF; all three grammars; strict or lenient).
-/
import YV.Proofs.XLexBase
namespace YV.XL
open YV

def AllWS (ws : List SrcRune) : Prop := ∀ r ∈ ws, isWS r.cp = true

theorem skip_ws (ws : List SrcRune) (h : AllWS ws) (s : LexSt) (hp : s.peek = 0) (l : List SrcRune) (f : Nat) :
    lexCommon.skip (ws.length + f) { s with line := ws ++ l } = lexCommon.skip f { s with line := l } := by
  induction ws with
  | nil => rw [List.length_nil, Nat.zero_add]; rfl
  | cons w ws ih =>
    obtain ⟨hw, h'⟩ := List.forall_mem_cons.mp h
    rw [List.length_cons, Nat.add_right_comm, lexCommon.skip,
      next_of_line { s with line := w :: ws ++ l } hp w (ws ++ l) rfl, if_neg (isWS_ne0 hw)]
    exact (if_pos hw).trans (ih h')

theorem lexCommon_leading_ws (strict : Bool) (g : Grammar) (pm : PfxMap) (ws l : List SrcRune)
    (h : AllWS ws) (s : LexSt) (hp : s.peek = 0) :
    lexCommon strict g pm { s with line := ws ++ l } = lexCommon strict g pm { s with line := l } := by
  unfold lexCommon
  rw [show (ws ++ l).length + 2 = ws.length + (l.length + 2) by rw [List.length_append, Nat.add_assoc],
    skip_ws ws h s hp l (l.length + 2)]

end YV.XL
