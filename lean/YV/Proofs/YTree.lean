/-
  Proofs.YTree — the statement parser returns the tree that was written: for every source tree, spelled as
  items with any separators before any token, `pStmt` returns exactly that tree (keyword, argument, position
  of the keyword, sub-statements in source order and nesting) and leaves what follows untouched.  `Yields r v rest`
  is that shape of statement; the proofs follow the parser step by step with its bind rule.
-/
import YV.Proofs.YParseEq
namespace YV.Y

/-- how an argument is written, at item level: absent, one unquoted word, or single-quoted pieces
    joined by '+' (double-quoted pieces additionally go through `trimWhitespace`: Proofs.YLayout, YLayoutEsc) -/
inductive SArg where
  | none
  | bare (pre : List Item) (it : Item)
  | quoted (pre : List Item) (q1 s q2 : Item) (more : List (List Item × Item × List Item × Item × Item × Item))

/-- a source tree with its trivia: the separators before each token -/
inductive Src where
  | leaf (pre : List Item) (kw : Item) (arg : SArg) (preD : List Item) (semi : Item)
  | block (pre : List Item) (kw : Item) (arg : SArg) (preD : List Item) (lb : Item) (subs : List Src)
      (preC : List Item) (rb : Item)

def moreItems : List (List Item × Item × List Item × Item × Item × Item) → List Item
  | [] => []
  | (p1, plus, p2, q1, s, q2) :: r => p1 ++ plus :: (p2 ++ [q1, s, q2]) ++ moreItems r

def moreVal : List (List Item × Item × List Item × Item × Item × Item) → Bytes
  | [] => []
  | (_, _, _, _, s, _) :: r => s.val ++ moreVal r

def moreWf : List (List Item × Item × List Item × Item × Item × Item) → Prop
  | [] => True
  | (p1, plus, p2, q1, s, q2) :: r =>
    AllSep p1 ∧ plus.typ = .plus ∧ AllSep p2 ∧ q1.typ = .quote ∧ s.typ = .string ∧ q2.typ = .quote ∧ q2.val ≠ [34] ∧ moreWf r

def SArg.items : SArg → List Item
  | .none => []
  | .bare pre it => pre ++ [it]
  | .quoted pre q1 s q2 more => pre ++ [q1, s, q2] ++ moreItems more

def SArg.val : SArg → Bytes
  | .none => []
  | .bare _ it => it.val
  | .quoted _ _ s _ more => s.val ++ moreVal more

def SArg.wf : SArg → Prop
  | .none => True
  | .bare pre it => AllSep pre ∧ it.typ = .string
  | .quoted pre q1 s q2 more =>
    AllSep pre ∧ q1.typ = .quote ∧ s.typ = .string ∧ q2.typ = .quote ∧ q2.val ≠ [34] ∧ moreWf more

mutual
def Src.items : Src → List Item
  | .leaf pre kw arg preD semi => pre ++ kw :: (arg.items ++ preD ++ [semi])
  | .block pre kw arg preD lb subs preC rb =>
    pre ++ kw :: (arg.items ++ preD ++ lb :: (itemsL subs ++ preC ++ [rb]))
def itemsL : List Src → List Item
  | [] => []
  | s :: r => s.items ++ itemsL r
end

mutual
def Src.tree : Src → Stmt
  | .leaf _ kw arg _ _ => .mk kw.val arg.val kw.pos []
  | .block _ kw arg _ _ subs _ _ => .mk kw.val arg.val kw.pos (treeL subs)
def treeL : List Src → List Stmt
  | [] => []
  | s :: r => s.tree :: treeL r
end

mutual
def Src.wf : Src → Prop
  | .leaf pre kw arg preD semi => AllSep pre ∧ kw.typ = .string ∧ arg.wf ∧ AllSep preD ∧ semi.typ = .semi
  | .block pre kw arg preD lb subs preC rb =>
    AllSep pre ∧ kw.typ = .string ∧ arg.wf ∧ AllSep preD ∧ lb.typ = .lbrace ∧ wfL subs ∧ AllSep preC ∧ rb.typ = .rbrace
def wfL : List Src → Prop
  | [] => True
  | s :: r => s.wf ∧ wfL r
end

mutual
/-- the fuel the parser needs: nesting depth plus the number of siblings on the way -/
def Src.need : Src → Nat
  | .leaf .. => 1
  | .block _ _ _ _ _ subs _ _ => 1 + needL subs
def needL : List Src → Nat
  | [] => 1
  | s :: r => 1 + max s.need (needL r)
end

/-- `pStmt_spec`, `pStar_spec` and `parseItems_spec` are stated with this existential written out; their proofs
    return a `Yields`, which is the same proposition by unfolding -/
def Yields {α} (r : P (α × PS)) (v : α) (rest : List Item) : Prop := ∃ s', r = .ok (v, s') ∧ s'.items = rest

theorem Yields.pure {α} {s : PS} {l : List Item} (a : α) (h : s.items = l) : Yields (pure (a, s)) a l := ⟨s, rfl, h⟩

theorem Yields.bind {α β} {x : P (α × PS)} {g : α × PS → P (β × PS)} {a : α} {b : β} {l l' : List Item}
    (hx : Yields x a l) (hg : ∀ s1 : PS, s1.items = l → Yields (g (a, s1)) b l') : Yields (x >>= g) b l' := by
  obtain ⟨s1, rfl, h1⟩ := hx
  exact hg s1 h1

theorem vis_to {seps : List Item} {it : Item} {rest : List Item} {s : PS} {t : ITyp} (h : AllSep seps) (ht : it.typ = t)
    (hsep : t ≠ .sep) (hs : s.items = seps ++ it :: rest) : vis s.items = it :: rest := by
  rw [hs, vis_append _ h, vis_cons _ (ht ▸ hsep)]

theorem nextNS_of_vis {s : PS} {it : Item} {rest : List Item} (h : vis s.items = it :: rest) :
    (nextNS s).1 = it ∧ (nextNS s).2.items = rest := by
  rw [(nextNS_vis s).1, (nextNS_vis s).2, peek_of_vis h, h]; exact ⟨rfl, rfl⟩

theorem expectT_of_vis {s : PS} {it : Item} {rest : List Item} {t : ITyp} (h : vis s.items = it :: rest)
    (ht : it.typ = t) : Yields (expectT t s) it rest := by
  obtain ⟨h1, h2⟩ := nextNS_of_vis h
  rw [expectT_eq, h1, if_pos ht]
  exact Yields.pure _ h2

theorem moreItems_len (more : List (List Item × Item × List Item × Item × Item × Item)) :
    2 * more.length ≤ (moreItems more).length := by
  induction more with
  | nil => exact Nat.le_refl 0
  | cons a r ih =>
    obtain ⟨p1, plus, p2, q1, st, q2⟩ := a
    simp only [moreItems, List.length_cons, List.length_append, List.length_nil]
    omega

theorem argQuoted_spec (input : Bytes) (f : Nat) {s : PS} {st q2 : Item} {X rest : List Item} {v : Bytes}
    (hst : st.typ = .string) (hq2 : q2.typ = .quote) (hq2v : q2.val ≠ [34]) (hs : s.items = st :: q2 :: X)
    (hc : ∀ s4 : PS, s4.items = X → Yields (argConcat input f s4) v rest) :
    Yields (argQuoted input (f + 1) s) (st.val ++ v) rest := by
  have hv : vis s.items = st :: q2 :: X := by rw [hs, vis_cons _ (hst ▸ nofun)]
  rw [argQuoted_succ, peek_of_vis hv, if_pos hst]
  have hv2 : vis (nextNS s).2.items = q2 :: X := by rw [(nextNS_of_vis hv).2, vis_cons _ (hq2 ▸ nofun)]
  refine (expectT_of_vis hv2 hq2).bind fun s4 h4 => (hc s4 h4).bind fun s5 h5 => ?_
  rw [pieceOf, if_neg hq2v]
  exact Yields.pure _ h5

/-- what ends an argument is no separator, and is what `argument` and `argConcat` stop at -/
theorem delim {d : Item} (hd : d.typ = .lbrace ∨ d.typ = .semi) :
    d.typ ≠ .sep ∧ (d.typ = .lbrace || d.typ = .semi) = true := by
  rcases hd with h | h <;> rw [h] <;> exact ⟨nofun, rfl⟩

/-- the fuel is written so that a further piece adds two to it by computation -/
theorem argConcat_spec (input : Bytes) (more : List (List Item × Item × List Item × Item × Item × Item))
    (hw : moreWf more) (f : Nat) (s : PS) (seps : List Item) (d : Item)
    (tail : List Item) (hseps : AllSep seps) (hd : d.typ = .lbrace ∨ d.typ = .semi)
    (hs : s.items = moreItems more ++ (seps ++ d :: tail)) :
    Yields (argConcat input (f + 2 * more.length + 1) s) (moreVal more) (seps ++ d :: tail) := by
  induction more generalizing s with
  | nil =>
    rw [argConcat_succ, peek_of_vis (vis_to hseps rfl (delim hd).1 hs), if_pos (delim hd).2]
    exact Yields.pure _ hs
  | cons a r ih =>
    obtain ⟨p1, plus, p2, q1, st, q2⟩ := a
    obtain ⟨hp1, hplus, hp2, hq1, hst, hq2, hq2v, hr⟩ := hw
    simp only [moreItems, List.append_assoc, List.cons_append, List.nil_append] at hs
    have hv := vis_to hp1 hplus nofun hs
    rw [argConcat_succ, peek_of_vis hv, hplus, if_neg nofun, if_pos rfl]
    refine (expectT_of_vis (vis_to hp2 hq1 nofun (nextNS_of_vis hv).2) hq1).bind fun s2 h2 => ?_
    exact argQuoted_spec input (f + 2 * r.length + 1) hst hq2 hq2v h2 fun s4 h4 => ih hr s4 h4

theorem arg_spec (input : Bytes) (arg : SArg) (hw : arg.wf) (s1 : PS) (preD : List Item) (d : Item)
    (tail : List Item) (hpre : AllSep preD) (hd : d.typ = .lbrace ∨ d.typ = .semi)
    (hs : s1.items = arg.items ++ (preD ++ d :: tail)) :
    Yields (argument input s1) arg.val (preD ++ d :: tail) := by
  cases arg with
  | none =>
    rw [argument_eq, peek_of_vis (vis_to hpre rfl (delim hd).1 hs), if_pos (delim hd).2]
    exact Yields.pure _ hs
  | bare pre it =>
    obtain ⟨hp1, hit⟩ := hw
    simp only [SArg.items, List.append_assoc, List.cons_append, List.nil_append] at hs
    have hv := vis_to hp1 hit nofun hs
    rw [argument_eq, peek_of_vis hv, hit, if_neg nofun, if_pos rfl, (nextNS_of_vis hv).1]
    exact Yields.pure _ (nextNS_of_vis hv).2
  | quoted pre q1 st q2 more =>
    obtain ⟨hp1, hq1, hst, hq2, hq2v, hm⟩ := hw
    -- `argument` gives the number of items as fuel, and each further piece is four items or more
    have hsub : (moreItems more).Sublist s1.items :=
      hs ▸ (List.sublist_append_right ..).trans (List.sublist_append_left ..)
    obtain ⟨k, hk⟩ := Nat.exists_eq_add_of_le' (Nat.le_trans (moreItems_len more) hsub.length_le)
    simp only [SArg.items, List.append_assoc, List.cons_append, List.nil_append] at hs
    have hv := vis_to hp1 hq1 nofun hs
    rw [argument_eq, peek_of_vis hv, hq1, if_neg nofun, if_neg nofun, if_pos rfl, hk]
    refine argQuoted_spec input _ hst hq2 hq2v (nextNS_of_vis hv).2 fun s4 h4 => ?_
    exact argConcat_spec input more hm k s4 preD d tail hpre hd h4

def noChk : Stmt → Bool := fun _ => true

/-- keyword and argument, common to both forms of statement -/
theorem pStmt_head (chk : Stmt → Bool) (input : Bytes) (f : Nat) {s : PS} {pre preD tail rest : List Item} {kw d : Item}
    {arg : SArg} {v : Stmt} (hpre : AllSep pre) (hkw : kw.typ = .string) (harg : arg.wf) (hpreD : AllSep preD)
    (hd : d.typ = .lbrace ∨ d.typ = .semi) (hs : s.items = pre ++ kw :: (arg.items ++ (preD ++ d :: tail)))
    (ht : ∀ s2 : PS, s2.items = preD ++ d :: tail → Yields (stmtTail chk input f kw arg.val s2) v rest) :
    Yields (pStmt chk input (f + 1) s) v rest := by
  rw [pStmt_succ]
  refine (expectT_of_vis (vis_to hpre hkw nofun hs) hkw).bind fun s1 h1 => ?_
  exact (arg_spec input arg harg s1 preD d tail hpreD hd h1).bind ht

theorem Src.items_head {src : Src} (hw : src.wf) :
    ∃ pre kw tail, src.items = pre ++ kw :: tail ∧ AllSep pre ∧ kw.typ = .string := by
  cases src <;> exact ⟨_, _, _, rfl, hw.1, hw.2.1⟩

theorem Src.need_pos : (src : Src) → 0 < src.need
  | .leaf .. => Nat.zero_lt_one
  | .block .. => Nat.lt_add_right _ Nat.zero_lt_one

theorem needL_pos : (subs : List Src) → 0 < needL subs
  | [] => Nat.zero_lt_one
  | _ :: _ => Nat.lt_add_right _ Nat.zero_lt_one

/-- `need` counts one for the node itself; the calls it makes get the rest -/
theorem need_pred {a f : Nat} (h : 1 + a ≤ f + 1) : a ≤ f := Nat.le_of_add_le_add_left (Nat.add_comm f 1 ▸ h)

/-- both parsers at once, by induction on the fuel: `pStar (f + 1)` calls `pStmt f` and `pStar f`, `pStmt (f + 1)`
    calls `pStar f` -/
theorem pStmtStar_spec (input : Bytes) (f : Nat) :
    (∀ src : Src, src.wf → src.need ≤ f → ∀ (s : PS) (rest : List Item), s.items = src.items ++ rest →
      Yields (pStmt noChk input f s) src.tree rest) ∧
    (∀ subs : List Src, wfL subs → needL subs ≤ f → ∀ (s : PS) (preC : List Item) (rb : Item) (rest : List Item),
      AllSep preC → rb.typ = .rbrace → s.items = itemsL subs ++ (preC ++ rb :: rest) →
      Yields (pStar noChk input f s) (treeL subs) (preC ++ rb :: rest)) := by
  induction f with
  | zero =>
    exact ⟨fun src _ hf => absurd src.need_pos (Nat.not_lt_of_le hf),
      fun subs _ hf => absurd (needL_pos subs) (Nat.not_lt_of_le hf)⟩
  | succ f ih =>
    obtain ⟨ihS, ihT⟩ := ih
    refine ⟨fun src hw hf s rest hs => ?_, fun subs hw hf s preC rb rest hpreC hrb hs => ?_⟩
    · cases src with
      | leaf pre kw arg preD semi =>
        obtain ⟨hpre, hkw, harg, hpreD, hsemi⟩ := hw
        simp only [Src.items, List.append_assoc, List.cons_append, List.nil_append] at hs
        refine pStmt_head noChk input f hpre hkw harg hpreD (.inr hsemi) hs fun s2 h2 => ?_
        obtain ⟨hn, hr⟩ := nextNS_of_vis (vis_to hpreD hsemi nofun h2)
        rw [stmtTail, hn, if_pos hsemi]
        exact Yields.pure _ hr
      | block pre kw arg preD lb subs preC rb =>
        obtain ⟨hpre, hkw, harg, hpreD, hlb, hsubs, hpreC, hrb⟩ := hw
        simp only [Src.items, List.append_assoc, List.cons_append, List.nil_append] at hs
        refine pStmt_head noChk input f hpre hkw harg hpreD (.inl hlb) hs fun s2 h2 => ?_
        obtain ⟨hn, hr⟩ := nextNS_of_vis (vis_to hpreD hlb nofun h2)
        rw [stmtTail, hn, hlb, if_neg nofun, if_pos rfl]
        refine (ihT subs hsubs (need_pred hf) _ preC rb rest hpreC hrb hr).bind fun s4 h4 => ?_
        exact (expectT_of_vis (vis_to hpreC hrb nofun h4) hrb).bind fun s5 h5 => Yields.pure _ h5
    · cases subs with
      | nil =>
        rw [pStar_succ, peek_of_vis (vis_to hpreC hrb nofun hs), if_pos hrb]
        exact Yields.pure _ hs
      | cons src r =>
        obtain ⟨hw1, hwr⟩ := hw
        obtain ⟨hf1, hfr⟩ := Nat.max_le.mp (need_pred hf)
        simp only [itemsL, List.append_assoc] at hs
        -- the next item is the keyword of `src`: not a closing brace
        obtain ⟨pre, kw, tail, he, hpre, hkw⟩ := Src.items_head hw1
        have hv : vis s.items = kw :: (tail ++ (itemsL r ++ (preC ++ rb :: rest))) :=
          vis_to hpre hkw nofun (by rw [hs, he, List.append_assoc, List.cons_append])
        rw [pStar_succ, peek_of_vis hv, hkw, if_neg nofun]
        refine (ihS src hw1 hf1 s _ hs).bind fun s1 h1 => ?_
        exact (ihT r hwr hfr s1 preC rb rest hpreC hrb h1).bind fun s2 h2 => Yields.pure _ h2

theorem pStmt_spec (input : Bytes) (src : Src) (hw : src.wf) (f : Nat) (hf : src.need ≤ f) (s : PS) (rest : List Item)
    (hs : s.items = src.items ++ rest) : ∃ s', pStmt noChk input f s = .ok (src.tree, s') ∧ s'.items = rest :=
  (pStmtStar_spec input f).1 src hw hf s rest hs

theorem pStar_spec (input : Bytes) : (subs : List Src) → wfL subs → (f : Nat) → needL subs ≤ f → (s : PS) →
    (preC : List Item) → (rb : Item) → (rest : List Item) → AllSep preC → rb.typ = .rbrace →
    s.items = itemsL subs ++ (preC ++ rb :: rest) →
    ∃ s', pStar noChk input f s = .ok (treeL subs, s') ∧ s'.items = preC ++ rb :: rest :=
  fun subs hw f hf s preC rb rest hpreC hrb hs => (pStmtStar_spec input f).2 subs hw hf s preC rb rest hpreC hrb hs

theorem argItems_len (a : SArg) : 0 ≤ a.items.length := Nat.zero_le _

mutual
theorem need_lt : (src : Src) → src.need < src.items.length
  | .leaf pre kw arg preD semi => by
    unfold Src.need Src.items
    simp only [List.length_append, List.length_cons, List.length_nil]; omega
  | .block pre kw arg preD lb subs preC rb => by
    have := needL_le subs
    unfold Src.need Src.items
    simp only [List.length_append, List.length_cons, List.length_nil]; omega
theorem needL_le : (subs : List Src) → needL subs ≤ (itemsL subs).length + 1
  | [] => Nat.le_refl 1
  | s :: r => by
    have h1 := need_lt s
    have h2 := needL_le r
    unfold needL itemsL
    rw [List.length_append]; omega
end

theorem parseItems_spec (input : Bytes) (src : Src) (hw : src.wf) (seps : List Item) (eof : Item)
    (hseps : AllSep seps) (heof : eof.typ = .eof) :
    ∃ s', parseItems noChk input (src.items ++ (seps ++ [eof])) = .ok (src.tree, s') ∧ s'.items = [] := by
  have hf : src.need ≤ (src.items ++ (seps ++ [eof])).length + 2 :=
    Nat.le_trans (Nat.le_of_lt (need_lt src)) (Nat.le_add_right_of_le (List.sublist_append_left ..).length_le)
  refine Yields.bind (pStmt_spec input src hw _ hf _ (seps ++ [eof]) rfl) fun s1 h1 => ?_
  exact (expectT_of_vis (vis_to hseps heof nofun h1) heof).bind fun s2 h2 => Yields.pure _ h2

end YV.Y
