/-
  Proofs.XReads — what it means for a parser function to read a token sequence, and how such facts compose.

  `Reads p ts c stop` says what `p` does on every state whose tokens begin with `ts`; `Reads.bind` and the lemmas
  around it follow the shape of a `do` block, so that the proof that a parser function reads the tokens of a syntax
  tree is a term that reads like the grammar rule, and the state after the run is computed once, here.  XPrec
  (must/when expressions) and the completeness half of XLeafref rest on it.
-/
import YV.Proofs.XPSt
import YV.Proofs.Except
namespace YV.XP
open YV YV.X YV.XL

def advN (n : Nat) (s : PSt) : PSt := { s with toks := s.toks.drop n, pos := s.pos + n }

/-- the state after `n` tokens that produced `code` -/
def doneG (n : Nat) (code : List PI) (s : PSt) : PSt := { advN n s with out := code.reverse ++ s.out }

theorem tk_advN (n : Nat) (s : PSt) : tk (advN n s) = (tk s).drop n := by
  simp [tk, advN, List.map_drop]

theorem adv_eq (s : PSt) : adv s = advN 1 s := rfl

theorem doneG_strict (n : Nat) (c : List PI) (s : PSt) : (doneG n c s).strict = s.strict := rfl

theorem doneG_doneG (n m : Nat) (c d : List PI) (s : PSt) :
    doneG m d (doneG n c s) = doneG (n + m) (c ++ d) s := by
  simp [doneG, advN, List.drop_drop, Nat.add_assoc]

theorem tk_doneG_of {s : PSt} {ts rest : List Tok} (c : List PI) (h : tk s = ts ++ rest) :
    tk (doneG ts.length c s) = rest := by
  show tk (advN ts.length s) = rest
  rw [tk_advN, h, List.drop_left]

theorem peek_doneG_of {s : PSt} {ts rest : List Tok} (c : List PI) (h : tk s = ts ++ rest) :
    peekTok (doneG ts.length c s) = rest.headD .eof := by
  rw [peek_tk, tk_doneG_of c h]

theorem expectCh_ok (c : Char) (s : PSt) (h : peekTok s = .ch (chr c)) : expectCh c s = .ok (adv s) := by
  simp only [expectCh, h, ↓reduceIte]; rfl

/-- the elementary actions of the parsers: read the lookahead token, emit an instruction, both.  The equations of the
    parser functions are stated with them as right-nested binds: with a state transformer in argument position
    (`q (emit (adv s) i)`) `Reads.bind` would need higher-order unification; and where the model binds the result
    of an `if` or `match`, its `do` block carries the continuation into the branches (`apply_ite` undoes that). -/
abbrev skip (s : PSt) : P PSt := pure (adv s)
abbrev out (i : PI) (s : PSt) : P PSt := pure (emit s i)
abbrev shift (i : PI) (s : PSt) : P PSt := pure (emit (adv s) i)

/-- `p` reads the tokens `ts` and emits the code `c`: on every state (of the non-strict variant) whose tokens begin
    with `ts`, followed by a token at which `stop` holds — the lookahead `p` needs in order to end there —, `p`
    succeeds, and the state it returns is the one `ts.length` tokens further on with `c` added to the output,
    nothing else changed. -/
def Reads (p : PSt → P PSt) (ts : List Tok) (c : List PI) (stop : Tok → Prop) : Prop :=
  ∀ (s : PSt) (rest : List Tok), tk s = ts ++ rest → stop (rest.headD .eof) → s.strict = false →
    p s = .ok (doneG ts.length c s)

namespace Reads
variable {p q : PSt → P PSt} {ts us : List Tok} {c d : List PI} {st st' : Tok → Prop}

/-- one step of a `do` block: what `q` begins with must be a token at which `p` ends -/
theorem bind (hp : Reads p ts c st) (hq : Reads q us d st')
    (h : ∀ rest, st' (rest.headD .eof) → st ((us ++ rest).headD .eof)) :
    Reads (fun s => p s >>= q) (ts ++ us) (c ++ d) st' := by
  intro s rest ht hs hst
  have ht' : tk s = ts ++ (us ++ rest) := by rw [ht, List.append_assoc]
  show (p s >>= q) = _
  rw [hp s _ ht' (h rest hs) hst, ok_bind, hq _ rest (tk_doneG_of c ht') hs hst, doneG_doneG, List.length_append]

/-- `bind` after a first part that needs no lookahead -/
theorem andThen (hp : Reads p ts c fun _ => True) (hq : Reads q us d st) :
    Reads (fun s => p s >>= q) (ts ++ us) (c ++ d) st :=
  hp.bind hq fun _ _ => trivial

theorem cast {ts' : List Tok} {c' : List PI} (hp : Reads p ts c st) (h1 : ts = ts') (h2 : c = c') : Reads p ts' c' st :=
  h1 ▸ h2 ▸ hp

theorem skip (t : Tok) : Reads XP.skip [t] [] st := fun _ _ _ _ _ => rfl

theorem out (i : PI) : Reads (XP.out i) [] [i] st := fun _ _ _ _ _ => rfl

theorem shift (t : Tok) (i : PI) : Reads (XP.shift i) [t] [i] st := fun _ _ _ _ _ => rfl

theorem pure : Reads Pure.pure [] [] st := fun _ _ _ _ _ => rfl

theorem expect (ch : Char) : Reads (expectCh ch) [.ch (chr ch)] [] st :=
  fun s _ ht _ _ => expectCh_ok ch s (peek_cons ht)

theorem thenOut (i : PI) (hp : Reads p ts c st) : Reads (fun s => p s >>= XP.out i) ts (c ++ [i]) st :=
  (hp.bind (out i) fun _ h => h).cast (List.append_nil ts) rfl

theorem thenExpect (ch : Char) (hp : Reads p ts c st) (h : st (.ch (chr ch))) :
    Reads (fun s => p s >>= expectCh ch) (ts ++ [.ch (chr ch)]) c st' :=
  (hp.bind (expect ch) fun _ _ => h).cast rfl (List.append_nil c)

theorem of_stop (h : ∀ s, st (peekTok s) → p s = .ok s) : Reads p [] [] st :=
  fun s rest ht hs _ => h s (by rw [peek_tk, ht]; exact hs)

theorem of_eq (h : ∀ s rest, tk s = ts ++ rest → st (rest.headD .eof) → p s = q s) (hq : Reads q ts c st) :
    Reads p ts c st :=
  fun s rest ht hs hst => (h s rest ht hs).trans (hq s rest ht hs hst)

theorem of_fun_eq (h : ∀ s, p s = q s) (hq : Reads q ts c st) : Reads p ts c st := hq.of_eq fun s _ _ _ => h s

theorem of_peek {t : Tok} (h : ∀ s, peekTok s = t → p s = q s) (hq : Reads q (t :: ts) c st) : Reads p (t :: ts) c st :=
  hq.of_eq fun s _ ht _ => h s (peek_cons ht)

theorem test_pos (test : Tok → Prop) [DecidablePred test] {A B : PSt → P PSt} {t : Tok} (ht : test t)
    (hq : Reads A (t :: ts) c st) : Reads (fun s => if test (peekTok s) then A s else B s) (t :: ts) c st :=
  fun s rest hs hst hstr => (if_pos (by rw [peek_cons hs]; exact ht)).trans (hq s rest hs hst hstr)

theorem test_neg (test : Tok → Prop) [DecidablePred test] {A B : PSt → P PSt}
    (hne : ∀ rest, st (rest.headD .eof) → ¬ test ((ts ++ rest).headD .eof)) (hq : Reads B ts c st) :
    Reads (fun s => if test (peekTok s) then A s else B s) ts c st :=
  fun s rest hs hst hstr => (if_neg (by rw [peek_tk, hs]; exact hne rest hst)).trans (hq s rest hs hst hstr)

theorem ite_pos {A B : PSt → P PSt} {t : Tok} (hq : Reads A (t :: ts) c st) :
    Reads (fun s => if peekTok s = t then A s else B s) (t :: ts) c st := test_pos (· = t) rfl hq

theorem ite_neg {A B : PSt → P PSt} {t : Tok} (hne : ∀ rest, st (rest.headD .eof) → (ts ++ rest).headD .eof ≠ t)
    (hq : Reads B ts c st) : Reads (fun s => if peekTok s = t then A s else B s) ts c st := test_neg (· = t) hne hq

end Reads

end YV.XP
