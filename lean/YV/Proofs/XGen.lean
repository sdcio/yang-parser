/-
  Proofs.XGen — the function table of xpath/symbol.go (names, arities, argument kinds, return kinds), regenerated on
  every run, is the table the models range over (`Fn.sig`, `lookupFn`): compared once, for the properties that read it.
-/
import YV.Model.XTables
import YV.Gen.XPath
namespace YV.XT

theorem fnTable_is_source : Gen.fnTable = fnTableSorted := by decide +kernel

end YV.XT
