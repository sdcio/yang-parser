/-
  Proofs.XPathC — the path machine meets the specification: running the code of a supported
  location path issues exactly the requests `XPS.evalPath` lists, in that order, and yields the value
  the tree reports for the designated node.  Induction over steps, nested over predicates and operand
  paths; no bound on the number of steps, '..' steps or predicates.

  Outside a predicate every level (step, steps, path, path with its value, several paths) has one shape:
  from a state `Outside s ps` the code runs to `after s ps' rq` — new path stack, the requests `rq`
  appended to the history — so the levels compose by `after_after`.  Inside a predicate (its opening instructions, the
  operand, `=` and the closing one) the states are written out and the instructions run by computation.
-/
import YV.Spec.XCompile
import YV.Proofs.XSpec
import YV.Proofs.XRun
import YV.Proofs.XKeys
namespace YV.XM
open YV YV.X YV.XL YV.XP YV.XPS YV.XC YV.XS

@[simp] theorem R_bind_ok {α β} (a : α) (f : α → R β) : ((Except.ok a : R α) >>= f) = f a := rfl
@[simp] theorem R_bind_err {α β} (e : Fail) (f : α → R β) : ((Except.error e : R α) >>= f) = Except.error e := rfl
@[simp] theorem R_pure {α} (a : α) : (pure a : R α) = Except.ok a := rfl

theorem charRound (c : Char) : (if c.toNat.isValidChar then Char.ofNat c.toNat else Char.ofNat 0xFFFD) = c := by
  rw [if_pos (show c.toNat.isValidChar from c.valid), Char.ofNat_toNat]

@[simp] theorem runesToStr_strToRunes (n : Str) : runesToStr (strToRunes n) = n := by
  rw [runesToStr, strToRunes, List.map_map]
  exact (List.map_congr_left fun c _ => charRound c).trans (List.map_id n)

/-! ### function-result operands: the scalar sub-machine inside a predicate -/

/-- the environment of a closed expression -/
def env0 : Env := fun _ => .emptyNodeset

mutual
/-- no data operand and no `=` (inside a predicate the `=` instruction records a key) -/
def ClosedNoEq : Expr → Prop
  | .num _ | .lit _ => True
  | .env _ => False
  | .neg e => ClosedNoEq e
  | .bin op a b => op ≠ .eq ∧ ClosedNoEq a ∧ ClosedNoEq b
  | .call _ args => ClosedNoEqs args
def ClosedNoEqs : List Expr → Prop
  | [] => True
  | e :: es => ClosedNoEq e ∧ ClosedNoEqs es
end

/-- a function-result operand the theorem covers: arity-correct calls of functions whose body is proved equal
    to the specification's, no data operand, no `=` -/
def GoodScalar (e : Expr) : Prop := WellFormed e ∧ PureX e ∧ ClosedNoEq e

def failM {α} (m : String) : R α := .error { err := .internal m }

theorem liftM_ok {α} (a : α) : liftM (Except.ok a : M α) = .ok a := rfl
theorem liftM_err {α} (m : String) : liftM (Except.error m : M α) = (failM m : R α) := rfl

theorem liftM_bind {α β} (x : M α) (f : α → M β) : liftM (x >>= f) = liftM x >>= fun a => liftM (f a) := by
  cases x <;> rfl

theorem liftM_pure {α} (a : α) : liftM (pure a : M α) = pure a := rfl

theorem step_lit (fx : Bool) (t : Tree) (l : Str) (s : MSt) :
    step fx t (.lit (strToRunes l)) s = .ok { s with stack := .lit l :: s.stack } := by
  show Except.ok _ = _; rw [runesToStr_strToRunes]

theorem step_binPI (fx : Bool) (t : Tree) (op : BinOp) (hop : op ≠ .eq) (s : MSt) :
    step fx t (binPI op) s = (do let σ ← liftM (stepBin op s.stack); pure { s with stack := σ }) := by
  cases op
  case eq => exact absurd rfl hop
  all_goals rfl

theorem pureFn_ne_current {f : Fn} (h : pureFn f = true) : f ≠ .current := by
  rintro rfl; cases h

/- the scalar instructions act on the stack as in Model.XEval (`liftM` is a monad morphism), so the proof is that
   of `X.exec_compile` -/
mutual
theorem exec_scalarCode (fx : Bool) (t : Tree) (e : Expr) (hw : WellFormed e) (hp : PureX e) (hc : ClosedNoEq e)
    (k : List PI) (s : MSt) :
    exec fx t (scalarCode e ++ k) s = liftM (evalM env0 e) >>= fun d => exec fx t k { s with stack := d :: s.stack } := by
  cases e with
  | num x => rfl
  | lit l => show step fx t (.lit (strToRunes l)) s >>= _ = _; rw [step_lit]; rfl
  | env _ => exact hc.elim
  | neg a =>
    simp only [scalarCode, evalM, List.append_assoc, exec_scalarCode fx t a hw hp hc, List.singleton_append, exec_cons,
      step.eq_def, popNum_cons, liftM_bind, liftM_pure, bind_assoc, pure_bind]
  | bin op a b =>
    simp only [scalarCode, evalM, List.append_assoc, exec_scalarCode fx t a hw.1 hp.1 hc.2.1,
      exec_scalarCode fx t b hw.2 hp.2 hc.2.2, List.singleton_append, exec_cons, step_binPI fx t op hc.1,
      X.stepBin_eq, liftM_bind, liftM_pure, bind_assoc, pure_bind]
  | call f args =>
    simp only [scalarCode, evalM, List.append_assoc, exec_scalarListCode fx t args hw.2 hp.2 hc]
    cases hl : evalListM env0 args with
    | error e => rfl
    | ok vs =>
      simp only [liftM_ok, ok_bind, List.singleton_append, exec_cons, step.eq_def, pureFn_ne_current hp.1, ↓reduceIte,
        X.popArgs_eq _ vs _ ((evalListM_length env0 args vs hl).trans hw.1), liftM_bind, liftM_pure, bind_assoc, pure_bind]
theorem exec_scalarListCode (fx : Bool) (t : Tree) (es : List Expr) (hw : WellFormedList es) (hp : PureXs es)
    (hc : ClosedNoEqs es) (k : List PI) (s : MSt) :
    exec fx t (scalarListCode es ++ k) s =
      liftM (evalListM env0 es) >>= fun vs => exec fx t k { s with stack := vs.reverse ++ s.stack } := by
  cases es with
  | nil => rfl
  | cons e es =>
    simp only [scalarListCode, evalListM, List.append_assoc, exec_scalarCode fx t e hw.1 hp.1 hc.1,
      exec_scalarListCode fx t es hw.2 hp.2 hc.2, liftM_bind, liftM_pure, bind_assoc, pure_bind, List.reverse_cons,
      List.append_assoc, List.singleton_append]
end

/-- `exec_scalarCode` with the outcome of `evalM` matched on -/
theorem exec_scalar (t : Tree) : ∀ (e : Expr), WellFormed e → PureX e → ClosedNoEq e → ∀ (k : List PI) (s : MSt),
    exec true t (scalarCode e ++ k) s =
      (match evalM env0 e with
       | .ok d => exec true t k { s with stack := d :: s.stack }
       | .error m => failM m) := fun e hw hp hc k s => by
  rw [exec_scalarCode true t e hw hp hc]; cases evalM env0 e <;> rfl

theorem exec_scalars (t : Tree) : ∀ (es : List Expr), WellFormedList es → PureXs es → ClosedNoEqs es →
    ∀ (k : List PI) (s : MSt),
    exec true t (scalarListCode es ++ k) s =
      (match evalListM env0 es with
       | .ok vs => exec true t k { s with stack := vs.reverse ++ s.stack }
       | .error m => failM m) := fun es hw hp hc k s => by
  rw [exec_scalarListCode true t es hw hp hc]; cases evalListM env0 es <;> rfl

theorem env0_simple : SimpleEnv env0 := fun _ => trivial

/-- The machine is outside any predicate, its path stack is `ps`.  (`isLLF` is raised only inside a predicate, by `=` on
    a leaf-list, and the end of the predicate lowers it again.) -/
structure Outside (s : MSt) (ps : List Path) : Prop where
  paths : s.paths = ps
  predCount : s.predCount = 0
  predEvalPath : s.predEvalPath = 0
  isLLF : s.isLLF = false
  prevReqELP : s.prevReqELP = true

def after (s : MSt) (ps : List Path) (rq : List String) : MSt :=
  { s with paths := ps, trace := rq.reverse ++ s.trace, ncalls := s.ncalls + rq.length }

theorem after_after (s : MSt) (ps ps' : List Path) (rq rq' : List String) :
    after (after s ps rq) ps' rq' = after s ps' (rq ++ rq') := by
  simp only [after, List.reverse_append, List.append_assoc, List.length_append, Nat.add_assoc]

theorem outside_after {s : MSt} {ps : List Path} (h : Outside s ps) (ps' : List Path) (rq : List String) :
    Outside (after s ps' rq) ps' := { h with paths := rfl }

theorem after_nil {s : MSt} {ps : List Path} (h : Outside s ps) : after s ps [] = s := by
  cases s; cases h.paths; rfl

theorem pushElem_cons (e : PElem) (s : MSt) (p : Path) (r : List Path) (hp : s.paths = p :: r) :
    pushElem e s = .ok { s with paths := { p with elems := p.elems ++ [e] } :: r } := by
  simp only [pushElem, hp]; rfl

theorem step_namePush (fx : Bool) (t : Tree) (pfx : List Rune) (n : Str) (s : MSt)
    (h : ¬ (s.predCount > 0 ∧ s.predEvalPath = 0)) :
    step fx t (.namePush pfx (strToRunes n)) s = pushElem { name := n } s :=
  (if_neg fun hb => h (((Bool.and_eq_true _ _).mp hb).imp of_decide_eq_true of_decide_eq_true)).trans
    (by rw [runesToStr_strToRunes])

/-- predicate-free steps, where a name is not a key (after the key name inside a predicate, or outside any) -/
theorem exec_ssteps (fx : Bool) (t : Tree) (steps : List SStep) (s : MSt) (top : Path) (rest : List Path)
    (hp : s.paths = top :: rest) (h : ¬ (s.predCount > 0 ∧ s.predEvalPath = 0)) :
    exec fx t (steps.map sstepCode) s =
      .ok { s with paths := { top with elems := top.elems ++ steps.map sstepElem } :: rest } := by
  induction steps generalizing s top with
  | nil => cases s; cases hp; simp only [List.map_nil, List.append_nil]; rfl
  | cons st steps ih =>
    have h1 : step fx t (sstepCode st) s = .ok { s with paths := { top with elems := top.elems ++ [sstepElem st] } :: rest } := by
      cases st with
      | up => exact pushElem_cons _ s top rest hp
      | name n => exact (step_namePush fx t [] n s h).trans (pushElem_cons _ s top rest hp)
    rw [List.map_cons, exec_cons, h1]
    exact (ih { s with paths := _ } _ rfl h).trans (by rw [List.append_assoc]; rfl)

theorem exec_rootCode (t : Tree) (root : SRoot) (s : MSt) (p : Path) (rest : List Path) (hp : s.paths = p :: rest) :
    exec true t (rootCode root) s = .ok { s with paths := rootBase p root :: rest } := by
  cases s; cases hp; cases root <;> rfl

/-- operands covered by the theorem -/
def okOp : Operand → Prop
  | .scalar e => GoodScalar e
  | .scalarP _ _ => False        -- function results over argument paths: compared (stream c02), not part of the theorem
  | _ => True

theorem toLit_litOf {d : Datum} (h : d ≠ .invalid) : d.toLit = .ok (litOf d) := by
  cases d <;> first | rfl | exact absurd rfl h

/-- the tree never hands out the `invalid` datum (it is a test-only value of the Go code) -/
def ValidTree (t : Tree) : Prop := ∀ p, t.value p ≠ .invalid

/-- The operand of a predicate: the key name lies on the stack, the path of the step the predicate stands on (`here`)
    has been duplicated.  States are written out as ⟨stack, paths, preds, predCount, predEvalPath, isLLF, prevReqELP,
    res, trace, ncalls⟩ so that the machine runs by computation. -/
theorem exec_operand (t : Tree) (hf : NoFault t) (hv : ValidTree t) (op : Operand) (hs : okOp op)
    (σ : List Datum) (here : Path) (rest : List Path) (ms : List (List (Str × Str))) (res : Option Datum)
    (tr : List String) (n : Nat) :
    ∃ d pe, d.toLit = .ok (operandValue t here op).1 ∧
    exec true t (operandCode op) ⟨σ, here :: here :: rest, ms, 1, 1, false, false, res, tr, n⟩ =
      .ok ⟨d :: σ, here :: here :: rest, ms, 1, pe, false, false, res, (operandValue t here op).2.reverse ++ tr,
        n + (operandValue t here op).2.length⟩ := by
  cases op with
  | scalarP e ps => exact hs.elim
  | lit l => exact ⟨.lit l, 1, rfl, step_lit true t l _⟩
  | num x => exact ⟨.num x, 1, rfl, rfl⟩
  | scalar e =>
    obtain ⟨hw, hpx, hcl⟩ := hs
    obtain ⟨d, h1, h2, h3⟩ := evalM_spec env0 env0_simple e hw hpx
    refine ⟨d, 1, ?_, ?_⟩
    · rw [toLit_spec h2]; exact congrArg (fun o => Except.ok (match o with | some v => stringOf v | none => [])) h3.symm
    · have := exec_scalarCode true t e hw hpx hcl []
      rw [List.append_nil] at this
      rw [operandCode, this, h1]; rfl
  | path p =>
    refine ⟨_, 2, toLit_litOf (hv _), ?_⟩
    rw [operandCode, List.append_assoc, exec_append_ok _ (exec_rootCode t p.root _ here _ rfl),
      exec_append_ok _ (exec_ssteps true t p.steps _ _ _ rfl fun h => absurd h.2 Nat.one_ne_zero)]
    -- the second `evalLocPath` of the predicate: `evalInternal` pops the operand path, makes the two requests, pushes
    -- the value and duplicates `here` again
    obtain ⟨v, _, dt⟩ := t
    cases hf
    rfl

theorem exec_pred (t : Tree) (hf : NoFault t) (hv : ValidTree t) (k : Str) (op : Operand) (hs : okOp op)
    (s : MSt) (here : Path) (rest : List Path) (m : List (Str × Str)) (ms : List (List (Str × Str)))
    (ho : Outside s (here :: rest)) (hm : s.preds = m :: ms) :
    exec true t (predCode (k, op)) s = .ok { after s (here :: rest) (operandValue t here op).2 with
      preds := (m.filter (fun kv => kv.1 ≠ k) ++ [(k, (operandValue t here op).1)]) :: ms } := by
  obtain ⟨σ, _, _, _, _, _, _, res, tr, n⟩ := s
  obtain ⟨⟨⟩, ⟨⟩, ⟨⟩, ⟨⟩, ⟨⟩⟩ := ho
  cases hm
  -- predStart duplicates `here`; the name is a literal (no path of the predicate has been evaluated yet); the first
  -- evalLocPath only counts
  have h1 : exec true t [.predStart, .namePush [] (strToRunes k), .evalLocPath]
      ⟨σ, here :: rest, m :: ms, 0, 0, false, true, res, tr, n⟩ =
      .ok ⟨.lit (runesToStr (strToRunes k)) :: σ, here :: here :: rest, m :: ms, 1, 1, false, false, res, tr, n⟩ := rfl
  rw [runesToStr_strToRunes] at h1
  obtain ⟨d, pe, hd, hop⟩ := exec_operand t hf hv op hs (.lit k :: σ) here rest (m :: ms) res tr n
  -- `=` with predCount = 1 and isLLF = false: pops the operand and the key name and records `k = string(operand)`
  -- in the top map (popPath, then newFromActual: the path stack is as before); predEnd pops the path predStart made
  have h2 : ∀ tr n,
      step true t .eq ⟨d :: .lit k :: σ, here :: here :: rest, m :: ms, 1, pe, false, false, res, tr, n⟩ =
      liftM d.toLit >>= fun v => .ok ⟨σ, here :: here :: rest, (m.filter (fun kv => kv.1 ≠ k) ++ [(k, v)]) :: ms,
        1, pe, false, true, res, tr, n⟩ := fun _ _ => rfl
  rw [predCode, List.append_assoc, exec_append_ok _ h1, exec_append_ok _ hop, exec_cons, h2, hd]
  rfl

/-- the predicates of one step are all of the covered kind and use pairwise different keys -/
def GoodPreds : List (Str × Operand) → Prop
  | [] => True
  | (k, op) :: rest => okOp op ∧ (∀ kv ∈ rest, kv.1 ≠ k) ∧ GoodPreds rest

theorem exec_preds (t : Tree) (hf : NoFault t) (hv : ValidTree t) (preds : List (Str × Operand))
    (hg : GoodPreds preds) (s : MSt) (here : Path) (rest : List Path) (m : List (Str × Str))
    (ms : List (List (Str × Str)))
    (ho : Outside s (here :: rest)) (hm : s.preds = m :: ms)
    (hfresh : ∀ kv ∈ preds, ∀ mv ∈ m, mv.1 ≠ kv.1) :
    exec true t (preds.flatMap predCode) s = .ok { after s (here :: rest) (stepKeys t here preds).2 with
      preds := (m ++ (stepKeys t here preds).1) :: ms } := by
  induction preds generalizing s m with
  | nil => cases s; cases hm; cases ho.paths; simp only [stepKeys, List.append_nil]; rfl
  | cons kv preds ih =>
    obtain ⟨k, op⟩ := kv
    obtain ⟨hs, hdist, hg'⟩ := hg
    have h1 := exec_pred t hf hv k op hs s here rest m ms ho hm
    rw [List.filter_eq_self.mpr fun mv hmv => decide_eq_true (hfresh (k, op) List.mem_cons_self mv hmv)] at h1
    rw [List.flatMap_cons, exec_append_ok _ h1]
    refine (ih hg' _ (m ++ [(k, (operandValue t here op).1)]) ?_ ?_ ?_).trans ?_
    · exact { ho with paths := rfl }
    · rfl
    · intro kv hkv mv hmv
      rcases List.mem_append.mp hmv with hmv | hmv
      · exact hfresh kv (List.mem_cons_of_mem _ hkv) mv hmv
      · cases List.mem_singleton.mp hmv; exact fun h => hdist kv hkv h.symm
    · simp only [stepKeys, after, List.reverse_append, List.append_assoc, List.length_append, Nat.add_assoc,
        List.singleton_append]

def GoodStep : Step → Prop
  | .up => True
  | .named _ preds => GoodPreds preds

/-- the path after one step, and the requests its predicates make (the spec's `walk`, one step) -/
def stepPath (t : Tree) (p : Path) : Step → Path × List String
  | .up => ({ p with elems := p.elems ++ [{ name := "..".toList }] }, [])
  | .named n preds =>
    let here := { p with elems := p.elems ++ [{ name := n }] }
    let (ks, rq) := stepKeys t here preds
    ({ p with elems := p.elems ++ [{ name := n, keys := ks.foldl (fun acc kv => insertKey kv.1 kv.2 acc) [] }] }, rq)

theorem stepKeys_fst (t : Tree) (here : Path) (preds : List (Str × Operand)) :
    (stepKeys t here preds).1 = preds.map (fun kv => (kv.1, (operandValue t here kv.2).1)) := by
  induction preds with
  | nil => rfl
  | cons kv preds ih => exact congrArg (_ :: ·) ih

theorem stepPath_perm (t : Tree) (p : Path) (n : Str) {preds preds' : List (Str × Operand)}
    (hp : preds.Perm preds') (hd : (preds.map Prod.fst).Nodup) :
    (stepPath t p (.named n preds)).1 = (stepPath t p (.named n preds')).1 := by
  simp only [stepPath, stepKeys_fst]
  rw [foldl_insertKey_perm (hp.map _) [] List.Pairwise.nil (by rwa [List.map_map])]

theorem walk_cons (t : Tree) (p : Path) (st : Step) (steps : List Step) :
    walk t p (st :: steps) =
      ((walk t (stepPath t p st).1 steps).1, (stepPath t p st).2 ++ (walk t (stepPath t p st).1 steps).2) := by
  cases st <;> rfl

/-- `predicatesEnd` writes the collected keys into the last element of the path (with no key collected, nothing changes) -/
theorem step_predicatesEnd (fx : Bool) (t : Tree) (s : MSt) (m : List (Str × Str)) (ms : List (List (Str × Str)))
    (p : Path) (r : List Path) (init : List PElem) (last : PElem)
    (hm : s.preds = m :: ms) (hp : s.paths = p :: r) (he : p.elems = init ++ [last]) :
    step fx t .predicatesEnd s = .ok { s with preds := ms, paths :=
      { p with elems := init ++ [{ last with keys := m.foldl (fun ks kv => insertKey kv.1 kv.2 ks) last.keys }] } :: r } := by
  unfold step
  simp only [hm, hp, he, List.reverse_concat, List.reverse_cons, List.reverse_reverse]
  cases m with
  | nil => cases s; cases hp; cases p; cases he; rfl
  | cons kv m => rfl

theorem exec_step (t : Tree) (hf : NoFault t) (hv : ValidTree t) (st : Step) (hg : GoodStep st) (s : MSt)
    (p : Path) (rest : List Path) (ho : Outside s (p :: rest)) :
    exec true t (stepCode st) s = .ok (after s ((stepPath t p st).1 :: rest) (stepPath t p st).2) := by
  have hcond : ¬ (s.predCount > 0 ∧ s.predEvalPath = 0) := fun h => absurd ho.predCount (Nat.ne_of_gt h.1)
  cases st with
  | up => simp only [stepCode, exec_cons, step.eq_def, pushElem_cons _ s p rest ho.paths, ok_bind]; cases s; rfl
  | named n preds =>
    have h1 := (step_namePush true t [] n s hcond).trans (pushElem_cons _ s p rest ho.paths)
    by_cases hnil : preds = []
    · subst hnil
      simp only [stepCode, List.isEmpty_nil, ↓reduceIte, exec_cons, h1, ok_bind]; cases s; rfl
    · have hne : preds.isEmpty = false := by cases preds <;> first | rfl | exact absurd rfl hnil
      simp only [stepCode, hne, Bool.false_eq_true, ↓reduceIte, List.cons_append, List.nil_append, exec_cons, h1, ok_bind]
      simp only [step.eq_def, YV.pure_eq_ok, ok_bind]
      have h2 := exec_preds t hf hv preds hg
        { s with paths := { p with elems := p.elems ++ [{ name := n }] } :: rest, preds := [] :: s.preds }
        { p with elems := p.elems ++ [{ name := n }] } rest [] s.preds { ho with paths := rfl } rfl
        (fun _ _ _ h => nomatch h)
      rw [exec_append_ok _ h2, exec_cons, step_predicatesEnd true t _ _ _ _ _ p.elems { name := n } rfl rfl rfl]
      cases s; rfl

def GoodSteps (steps : List Step) : Prop := ∀ st ∈ steps, GoodStep st

theorem exec_walk (t : Tree) (hf : NoFault t) (hv : ValidTree t) (steps : List Step) (hg : GoodSteps steps)
    (s : MSt) (p : Path) (rest : List Path) (ho : Outside s (p :: rest)) :
    exec true t (steps.flatMap stepCode) s = .ok (after s ((walk t p steps).1 :: rest) (walk t p steps).2) := by
  induction steps generalizing s p with
  | nil => exact (after_nil ho).symm ▸ rfl
  | cons st steps ih =>
    rw [List.flatMap_cons, exec_append_ok _ (exec_step t hf hv st (hg st List.mem_cons_self) s p rest ho), walk_cons,
      ih (fun x hx => hg x (List.mem_cons_of_mem _ hx)) _ _ (outside_after ho _ _), after_after]

/-- the paths covered by the main theorem -/
def GoodPath : PathE → Prop
  | .basic _ steps => GoodSteps steps
  | .deref inner steps => GoodPath inner ∧ GoodSteps steps

theorem designate_deref (t : Tree) (inner : PathE) (steps : List Step) :
    designate t (.deref inner steps) =
      ((walk t (t.derefTarget (designate t inner).1) steps).1,
       (designate t inner).2 ++ ["Navigate(" ++ showPath (designate t inner).1 ++ ")",
          "FollowLeafRef(" ++ showPath (designate t inner).1 ++ ")"] ++
         (walk t (t.derefTarget (designate t inner).1) steps).2) := rfl

theorem step_deref (fx : Bool) (t : Tree) (hf : NoFault t) (s : MSt) (p : Path) (rest : List Path)
    (hp : s.paths = p :: rest) :
    step fx t .deref s = .ok (after s (t.derefTarget p :: rest)
      ["Navigate(" ++ showPath p ++ ")", "FollowLeafRef(" ++ showPath p ++ ")"]) := by
  cases s; cases hp; obtain ⟨v, _, dt⟩ := t; cases hf; rfl

theorem exec_pathCode (t : Tree) (hf : NoFault t) (hv : ValidTree t) (p : PathE) (hg : GoodPath p)
    (s : MSt) (ho : Outside s [{}]) :
    exec true t (pathCode p) s = .ok (after s [(designate t p).1] (designate t p).2) := by
  induction p generalizing s with
  | basic root steps =>
    have hd : designate t (.basic root steps) = walk t (rootBase {} root) steps := by cases root <;> rfl
    rw [pathCode, exec_append_ok _ (exec_rootCode t root s {} [] ho.paths), hd]
    exact exec_walk t hf hv steps hg _ _ [] { ho with paths := rfl }
  | deref inner steps ih =>
    rw [pathCode, List.append_assoc, exec_append_ok _ (ih hg.1 s ho), List.singleton_append, exec_cons,
      step_deref true t hf (after s _ _) _ [] rfl, ok_bind,
      exec_walk t hf hv steps hg.2 _ _ [] (outside_after (outside_after ho _ _) _ _),
      after_after, after_after, designate_deref, List.append_assoc]

/-- `evalLocPath` outside a predicate, after a path (`prevReqELP`): `evalInternal` pops the one path, makes the two
    requests, pushes the value and leaves a fresh context path -/
theorem exec_evalLocPath (t : Tree) (hf : NoFault t) (s : MSt) (p : Path) (ho : Outside s [p]) :
    exec true t [.evalLocPath] s = .ok { after s [{}] (navReq p) with stack := t.value p :: s.stack } := by
  cases s; obtain ⟨⟨⟩, ⟨⟩, ⟨⟩, ⟨⟩, ⟨⟩⟩ := ho; obtain ⟨v, _, dt⟩ := t; cases hf; rfl

/-- one location path in the middle of an expression: its requests are issued, its value lands on the stack, and the
    machine is as it was — one empty context path, no predicate open — whatever was on the stack and in the history -/
theorem exec_path_value (t : Tree) (hf : NoFault t) (hv : ValidTree t) (p : PathE) (hg : GoodPath p) (s : MSt)
    (ho : Outside s [{}]) :
    exec true t (pathCode p ++ [.evalLocPath]) s =
      .ok { after s [{}] (evalPath t p).1 with stack := (evalPath t p).2 :: s.stack } := by
  rw [exec_append_ok _ (exec_pathCode t hf hv p hg s ho), exec_evalLocPath t hf _ _ (outside_after ho _ _), after_after]
  rfl

/-- **Main theorem (C02).**  Evaluating a supported location path issues exactly the requests the
    specification lists — operand paths first, in source order, then the designated node — and its
    value is the value the tree reports for that node. -/
theorem run_path_eq_spec (t : Tree) (hf : NoFault t) (hv : ValidTree t) (p : PathE) (hg : GoodPath p) :
    run true t (program (.path p)) =
      { value := some (evalPath t p).2, err := none, trace := (evalPath t p).1 } := by
  have h1 := exec_path_value t hf hv p hg {} ⟨rfl, rfl, rfl, rfl, rfl⟩
  rw [run_of_exec (p := program (.path p)) ((exec_append_ok [.store] h1).trans rfl)]
  simp only [after, List.reverse_reverse, List.append_nil]

/-- the code that evaluates the paths one after the other (the operands of an operator, the arguments of a function) -/
def pathsCode : List PathE → List PI
  | [] => []
  | p :: r => (pathCode p ++ [.evalLocPath]) ++ pathsCode r

def pathsTrace (t : Tree) : List PathE → List String
  | [] => []
  | p :: r => (evalPath t p).1 ++ pathsTrace t r

def pathsValues (t : Tree) : List PathE → List Datum
  | [] => []
  | p :: r => (evalPath t p).2 :: pathsValues t r
/-- several location paths in one expression: the requests of the first, then those of the second, … — each path is
    resolved from the context node as if it stood alone (nothing of one path is left behind for the next) — and their
    values lie on the stack in source order -/
theorem exec_paths (t : Tree) (hf : NoFault t) (hv : ValidTree t) (ps : List PathE) (hg : ∀ p ∈ ps, GoodPath p) (s : MSt)
    (ho : Outside s [{}]) :
    exec true t (pathsCode ps) s =
      .ok { after s [{}] (pathsTrace t ps) with stack := (pathsValues t ps).reverse ++ s.stack } := by
  induction ps generalizing s with
  | nil => cases s; cases ho.paths; rfl
  | cons p r ih =>
    rw [pathsCode, exec_append_ok _ (exec_path_value t hf hv p (hg p List.mem_cons_self) s ho)]
    refine (ih (fun q hq => hg q (List.mem_cons_of_mem _ hq)) _ ?_).trans ?_
    · exact { ho with paths := rfl }
    simp only [after, pathsValues, pathsTrace, List.reverse_append, List.append_assoc, List.length_append, Nat.add_assoc,
      List.reverse_cons, List.singleton_append]

end YV.XM
