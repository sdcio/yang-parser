/-
  Proofs.XLexBase — the basic facts about the lexer's primitives that the proofs about the XPath lexer share:
  the three cases of `next`, white space, the empty prefix, decoding ASCII, the function table's list.
-/
import YV.Model.XLex
namespace YV.XL
open YV

theorem next_of_peek (s : LexSt) (hp : s.peek ≠ 0) : next s = (s.peek, { s with peek := 0, peekW := 0 }) := by
  unfold next; rw [if_pos hp]

theorem next_of_eol (s : LexSt) (hp : s.peek = 0) (hl : s.line = []) : next s = (EOF, s) := by
  unfold next; rw [if_neg (by simp [hp]), hl]

theorem next_of_line (s : LexSt) (hp : s.peek = 0) (r : SrcRune) (rest : List SrcRune) (hl : s.line = r :: rest) :
    next s = (if r.cp = 0 then ERR else r.cp, { s with line := rest }) := by
  unfold next; rw [if_neg (by simp [hp]), hl]

theorem isWS_cases {w : Rune} (h : isWS w = true) : w = 9 ∨ w = 13 ∨ w = 10 ∨ w = 32 := by
  simpa [isWS, or_assoc] using h

theorem isWS_ne0 {c : Rune} (h : isWS c = true) : c ≠ 0 := by
  rcases isWS_cases h with rfl | rfl | rfl | rfl <;> decide

theorem pfxOk_nil (pm : PfxMap) : pfxOk pm [] = true := by
  unfold pfxOk; cases pm <;> simp

theorem decodeOne_ascii (b : Nat) (rest : List Nat) (h : b < 128) : decodeOne (b :: rest) = some (⟨b, 1⟩, rest) :=
  if_pos h

theorem decodeAux_ascii (bs : List Nat) : ∀ (f : Nat), bs.length ≤ f → (∀ b ∈ bs, b < 128) →
    decodeAux f bs = bs.map fun b => ⟨b, 1⟩ := by
  induction bs with
  | nil => intro f _ _; cases f <;> rfl
  | cons b r ih =>
    intro f hf hb
    obtain ⟨hb0, hbr⟩ := List.forall_mem_cons.mp hb
    cases f with
    | zero => exact absurd hf (Nat.not_succ_le_zero _)
    | succ f =>
      rw [decodeAux, decodeOne_ascii b r hb0]
      exact congrArg _ (ih f (Nat.le_of_succ_le_succ hf) hbr)

theorem decode_ascii (bs : List Nat) (h : ∀ b ∈ bs, b < 128) : (decode bs).map (·.cp) = bs := by
  unfold decode
  rw [decodeAux_ascii bs bs.length (Nat.le_refl _) h]
  simp [Function.comp_def]

/-- `Fn.all` lists every function (the lexer's `lookupFn` searches it): each at the index of its constructor, which
    is found without comparing it with the entries before it -/
theorem _root_.YV.X.Fn.mem_all (fn : X.Fn) : fn ∈ X.Fn.all :=
  List.mem_of_getElem? (i := fn.ctorIdx) (by cases fn <;> rfl)

end YV.XL
