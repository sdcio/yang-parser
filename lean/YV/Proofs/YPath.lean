/-
  Proofs.YPath — the path walker over child maps (Model.YSchema) says, for every schema and every token
  path, what the specification over the data view (Spec.YPathS) says.
-/
import YV.Spec.YPathS
import YV.Proofs.YLevel
namespace YV.SS
open YV YV.Y YV.SC

variable {τ : Type}

theorem viewKids_cons {x : SN τ} (h : x.isChoice = false) (r : List (SN τ)) :
    viewKids (x :: r) = (x.name, view x) :: viewKids r := by
  cases x with
  | choice => cases h
  | _ => rfl
theorem viewCases_cons {x : SN τ} (h : x.isCase = false) (r : List (SN τ)) :
    viewCases (x :: r) = (x.name, view x) :: viewCases r := by
  cases x with
  | case => cases h
  | _ => rfl

/-- the children of the data view are the child map, node by node -/
theorem view_eq_map : ∀ l : List (SN τ),
    viewKids l = (dataKids l).map (fun x => (x.name, view x)) ∧ viewCases l = (caseKids l).map fun x => (x.name, view x) := by
  apply level_ind
  · rw [dataKids_nil]; rfl
  · intro x r hx _ ih; rw [viewKids_cons hx, dataKids_cons hx, ih]; rfl
  · intro a m d cases r ihc ih; rw [dataKids_choice, List.map_append, ← ihc, ← ih]; rfl
  · rw [caseKids_nil]; rfl
  · intro a kids r ihk ih; rw [caseKids_case, List.map_append, ← ihk, ← ih]; rfl
  · intro x r hx ih; rw [viewCases_cons hx, caseKids_cons hx, ih]; rfl

theorem assoc_map {β : Type} (f : SN τ → β) (k : Tok) (l : List (SN τ)) :
    assoc k (l.map fun x => (x.name, f x)) = (lookup k l).map f := by
  induction l with
  | nil => rfl
  | cons x r ih => exact (congrArg (ite _ _) ih).trans (apply_ite (Option.map f) _ (some x) _).symm

theorem assoc_viewKids (k : Tok) : ∀ l : List (SN τ), assoc k (viewKids l) = (lookup k (dataKids l)).map view :=
  fun l => by rw [(view_eq_map l).1, assoc_map]
theorem assoc_viewCases (k : Tok) : ∀ l : List (SN τ), assoc k (viewCases l) = (lookup k (caseKids l)).map view :=
  fun l => by rw [(view_eq_map l).2, assoc_map]

theorem walkS_leaf (sem : TySem τ) (ai : Bool) (ty : τ) (k : Nat) (p : List Tok) :
    walkS sem ai (.leaf ty) k p = leafS sem ai (!sem.isEmpty ty) ty k p := walkS.eq_def ..
theorem walkS_leafList (sem : TySem τ) (ai : Bool) (ty : τ) (k : Nat) (p : List Tok) :
    walkS sem ai (.leafList ty) k p = leafS sem ai true ty k p := walkS.eq_def ..
theorem walkS_notData (sem : TySem τ) (ai : Bool) (k : Nat) (p : List Tok) :
    walkS sem ai (.notData : V τ) k p = .internal := walkS.eq_def ..
theorem walkS_cont_nil (sem : TySem τ) (ai pr : Bool) (kids : List (Tok × V τ)) (k : Nat) :
    walkS sem ai (.cont pr kids) k [] = if pr || ai then .ok else .bad k .incomplete := walkS.eq_def ..
theorem walkS_cont_cons (sem : TySem τ) (ai pr : Bool) (kids : List (Tok × V τ)) (k : Nat) (h : Tok) (t : List Tok) :
    walkS sem ai (.cont pr kids) k (h :: t) =
      match assoc h kids with
      | none => .bad k .unknown
      | some c => walkS sem ai c (k + 1) t := walkS.eq_def ..
theorem walkS_list_nil (sem : TySem τ) (ai : Bool) (key : Option τ) (kids : List (Tok × V τ)) (k : Nat) :
    walkS sem ai (.list key kids) k [] = if ai then .ok else .bad k .incomplete := walkS.eq_def ..
theorem walkS_list_cons (sem : TySem τ) (ai : Bool) (key : Option τ) (kids : List (Tok × V τ)) (k : Nat) (kv : Tok)
    (rest : List Tok) :
    walkS sem ai (.list key kids) k (kv :: rest) =
      match key with
      | none => .internal
      | some kty =>
        if !valueOK sem kty kv then .bad k .value
        else match rest with
          | [] => .ok
          | h :: t =>
            match assoc h kids with
            | none => .bad (k + 1) .unknown
            | some c => walkS sem ai c (k + 2) t := walkS.eq_def ..

theorem leafS_ok {sem : TySem τ} {ai nv : Bool} {ty : τ} {k : Nat} {p : List Tok} (h : leafS sem ai nv ty k p = .ok) :
    (p = [] ∧ (nv = false ∨ ai = true)) ∨ ∃ v, p = [v] ∧ valueOK sem ty v = true := by
  revert h
  -- the branches of `leafS`: 1, 2 no token left (accepted / incomplete); 3, 4 one token, the value (good / bad);
  -- 5, 6 tokens after the value (which is good / bad)
  fun_cases leafS sem ai nv ty k p <;> intro h <;> cases h
  case case1 hc => exact .inl ⟨rfl, by simpa using hc⟩
  case case3 v hv => exact .inr ⟨v, rfl, hv⟩

theorem leafS_bad {sem : TySem τ} {ai nv : Bool} {ty : τ} {k0 k : Nat} {why : Why} {p : List Tok}
    (h : leafS sem ai nv ty k0 p = .bad k why) :
    k0 ≤ k ∧ k ≤ k0 + p.length ∧ leafS sem true nv ty k0 (p.take (k - k0)) = .ok := by
  revert h
  fun_cases leafS sem ai nv ty k0 p <;> intro h <;> cases h
  case case5 hv =>
    exact ⟨Nat.le_succ _, Nat.add_le_add_left (Nat.le_add_left 1 _) k0, by rw [Nat.add_sub_cancel_left]; exact if_pos hv⟩
  all_goals exact ⟨Nat.le_refl _, Nat.le_add_right _ _, by rw [Nat.sub_self]; exact if_pos (Bool.or_true _)⟩

/-- an index behind the first token, counted from before it -/
theorem behind_first {k0 k : Nat} (h : Tok) (t : List Tok) (h1 : k0 + 1 ≤ k) (h2 : k ≤ k0 + 1 + t.length) :
    k0 ≤ k ∧ k ≤ k0 + (h :: t).length ∧ (h :: t).take (k - k0) = h :: t.take (k - (k0 + 1)) :=
  ⟨Nat.le_of_succ_le h1, Nat.add_right_comm k0 1 _ ▸ h2,
    by rw [← Nat.sub_add_cancel (Nat.sub_pos_of_lt h1), List.take_succ_cons, Nat.sub_add_eq]⟩

/-- a rejection at index `k` leaves the tokens before `k` a walk of the view that may stop early: every branch either
    rejects at its own index, where the empty rest is accepted as incomplete, or passes the verdict of a child up,
    one (container) or two (list: key value and child name) tokens further on -/
theorem walkS_bad (sem : TySem τ) (ai : Bool) (p : List Tok) : ∀ (v : V τ) (k0 k : Nat) (why : Why),
    walkS sem ai v k0 p = .bad k why →
      k0 ≤ k ∧ k ≤ k0 + p.length ∧ walkS sem true v k0 (p.take (k - k0)) = .ok := by
  intro v k0
  -- the branches of `walkS` in the order of its text: 1-3 leaf, leaf-list, no data node; 4-7 container (end of the
  -- path: accepted / incomplete; then: unknown child / child); 8-14 list (end: accepted / incomplete; then: no key /
  -- bad key value / entry / unknown child / child)
  fun_induction walkS sem ai v k0 p <;> intro k why hw
  case case1 => rw [walkS_leaf]; exact leafS_bad hw
  case case2 => rw [walkS_leafList]; exact leafS_bad hw
  case case7 k0 pr kids h t c ha ih =>
    obtain ⟨h1, h2, h3⟩ := ih k why hw
    obtain ⟨g1, g2, g3⟩ := behind_first h t h1 h2
    refine ⟨g1, g2, ?_⟩
    rw [g3, walkS_cont_cons, ha]; exact h3
  case case13 k0 kids kv kty hv h t ha =>
    cases hw
    obtain ⟨g1, g2, g3⟩ := behind_first kv (h :: t) (Nat.le_refl (k0 + 1)) (Nat.le_add_right _ _)
    refine ⟨g1, g2, ?_⟩
    rw [g3, Nat.sub_self, walkS_list_cons]; simpa using hv
  case case14 k0 kids kv kty hv h t c ha ih =>
    obtain ⟨h1, h2, h3⟩ := ih k why hw
    obtain ⟨g1, g2, g3⟩ := behind_first (k0 := k0 + 1) h t h1 h2
    obtain ⟨f1, f2, f3⟩ := behind_first kv (h :: t) g1 g2
    refine ⟨f1, f2, ?_⟩
    rw [f3, g3, walkS_list_cons]
    simpa [ha, h3] using hv
  -- the other branches end the walk: not with a rejection, or with one at their own index
  all_goals cases hw
  all_goals exact ⟨Nat.le_refl _, Nat.le_add_right _ _, by simp [walkS_cont_nil, walkS_list_nil]⟩

theorem proj_error_ne_ok (e : VErr) : proj (.error e) ≠ .ok := by
  cases e <;> exact Verdict.noConfusion

/-- `Type.Validate` on the value that ends the walked path -/
theorem typeCheck_cases (sem : TySem τ) (ty : τ) (path : List Tok) (h : Tok) :
    (valueOK sem ty h = true ∧ typeCheck sem ty (path ++ [h]) h = .ok ()) ∨
    (valueOK sem ty h = false ∧
      ∃ e, typeCheck sem ty (path ++ [h]) h = .error e ∧ proj (.error e) = .bad path.length .value) := by
  unfold typeCheck valueOK
  -- both errors carry the path with the value at its end; `proj` takes the value off again
  cases sem.isEmpty ty
  · cases sem.accepts ty h
    · exact .inr ⟨rfl, _, rfl, congrArg (Verdict.bad · .value) (List.length_append ▸ rfl)⟩
    · exact .inl ⟨rfl, rfl⟩
  · cases h.isEmpty
    · exact .inr ⟨rfl, _, rfl, congrArg (fun l : List Tok => Verdict.bad l.length .value) List.dropLast_concat⟩
    · exact .inl ⟨rfl, rfl⟩

theorem proj_leafTail (sem : TySem τ) (ai : Bool) (ty : τ) (isLeaf : Bool) (path p : List Tok) :
    proj (leafTail sem ai ty isLeaf path p) = leafS sem ai (!(isLeaf && sem.isEmpty ty)) ty path.length p := by
  unfold leafTail leafS
  rcases p with _ | ⟨h, _ | ⟨x, r⟩⟩
  · dsimp only
    cases (isLeaf && sem.isEmpty ty) <;> cases ai <;> rfl
  · dsimp only
    rcases typeCheck_cases sem ty path h with ⟨hv, hc⟩ | ⟨hv, e, hc, he⟩
    · rw [hc, hv]; rfl
    · rw [hc, hv]; exact he
  · dsimp only
    rcases typeCheck_cases sem ty path h with ⟨hv, hc⟩ | ⟨hv, e, hc, he⟩
    · rw [hc, hv]; exact congrArg (Verdict.bad · .unknown) (List.length_append ..)
    · rw [hc, hv]; exact he

/-- the key type the view of a list shows is that of the key leaf found in the child map -/
theorem viewKey (keys : List Tok) (kids : List (SN τ)) :
    (keys.head?.bind fun k => (assoc k (viewKids kids)).bind leafTy) =
      (keys.head?.bind fun k => lookup k (dataKids kids)).bind fun n => leafTy (view n) := by
  cases keys.head? with
  | none => rfl
  | some k =>
    show (assoc k _).bind _ = (lookup k (dataKids kids)).bind _
    rw [assoc_viewKids]; cases lookup k (dataKids kids) <;> rfl

/-- the walker on a node of the tree = the specification on its data view -/
theorem proj_vnode (sem : TySem τ) (ai : Bool) (p : List Tok) : ∀ (nd : SN τ) (path : List Tok),
    proj (vnode sem ai nd path p) = walkS sem ai (view nd) path.length p := by
  induction hp : p.length using Nat.strongRecOn generalizing p with
  | _ n ih =>
    intro nd path
    rw [vnode.eq_def]
    cases nd with
    | leaf nm ty d m => exact (proj_leafTail sem ai ty true path p).trans (walkS_leaf ..).symm
    | leafList nm ty mn mx => exact (proj_leafTail sem ai ty false path p).trans (walkS_leafList ..).symm
    | choice nm m d cs => exact (walkS_notData ..).symm
    | case nm ks => exact (walkS_notData ..).symm
    | container nm pr kids =>
      cases p with
      | nil => exact (apply_ite proj ..).trans (walkS_cont_nil ..).symm
      | cons h t =>
        dsimp only
        rw [show view (SN.container nm pr kids) = .cont pr (viewKids kids) from rfl, walkS_cont_cons, assoc_viewKids,
          show (SN.container nm pr kids).children = dataKids kids from rfl]
        cases lookup h (dataKids kids) with
        | none => rfl
        | some c =>
          exact (ih t.length (hp ▸ Nat.lt_succ_self _) t rfl c (path ++ [h])).trans
            (congrArg (walkS sem ai _ · _) List.length_append)
    | list nm keys mn mx u kids =>
      cases p with
      | nil => exact (apply_ite proj ..).trans (walkS_list_nil ..).symm
      | cons kv rest =>
        dsimp only
        rw [show view (SN.list nm keys mn mx u kids) = .list _ (viewKids kids) from rfl, viewKey, walkS_list_cons,
          show (SN.list nm keys mn mx u kids).children = dataKids kids from rfl]
        cases (keys.head?.bind fun k => lookup k (dataKids kids)) with
        | none => rfl
        | some kn =>
          cases kn with
          | leaf knm kty kd km =>
            -- the key leaf checks the key value
            unfold leafTail; dsimp only
            show _ = if !valueOK sem kty kv then _ else _
            rcases typeCheck_cases sem kty path kv with ⟨hv, hc⟩ | ⟨hv, e, hc, he⟩
            · rw [hc, hv]
              cases rest with
              | nil => rfl
              | cons h t =>
                dsimp only
                rw [assoc_viewKids]
                cases lookup h (dataKids kids) with
                | none => exact congrArg (Verdict.bad · .unknown) List.length_append
                | some c =>
                  exact (ih t.length (hp ▸ Nat.lt_succ_of_lt (Nat.lt_succ_self _)) t rfl c (path ++ [kv, h])).trans
                    (congrArg (walkS sem ai _ · _) List.length_append)
            · rw [hc, hv]; exact he
          | _ => rfl

end YV.SS
