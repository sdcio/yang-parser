/-
  Proofs.XPrec — operator precedence and associativity of the must/when parser: an expression written with
  the parentheses its shape requires (and any others) parses to the postfix code of its tree.

  The parser functions that take one construct after another (primaries, calls, steps, location paths) are dealt
  with as `Reads` terms (Proofs.XReads) over one equation per branch, each written as its grammar rule.  The two
  left-associative loops (the binary levels, `|`) need statements that carry what the loop does next: `C`, `UC`;
  `loop_turn` is one turn of either.
  `prec_all` proves all of them together by induction on the expression.
-/
import YV.Proofs.XReads
import YV.Spec.XCompile
namespace YV.XP
open YV YV.X YV.XL YV.XC

/-- the contents of a predicate: the tokens between `[` and `]` and the code they compile to (any expression that
    parses — `BlkOK` below; `blk_of` makes one of every written expression, so predicates nest) -/
structure Blk where
  toks : List Tok
  code : List PI
  deriving Repr, DecidableEq

inductive PStep | name (p l : List Rune) (preds : List Blk) | up | dot
  deriving Repr, DecidableEq

inductive PRoot | abs | rel (first : PStep) | cur
  deriving Repr, DecidableEq

def blkToks : List Blk → List Tok
  | [] => []
  | b :: r => .ch (chr '[') :: (b.toks ++ .ch (chr ']') :: blkToks r)

def blkCode : List Blk → List PI
  | [] => []
  | b :: r => .predStart :: (b.code ++ .predEnd :: blkCode r)

def PStep.tok : PStep → Tok
  | .name p l _ => .nametest p l
  | .up => .dotdot
  | .dot => .ch (chr '.')

/-- the tokens after the first: the predicates -/
def PStep.rest : PStep → List Tok
  | .name _ _ preds => blkToks preds
  | _ => []

def PStep.preds : PStep → List Blk
  | .name _ _ preds => preds
  | _ => []

def PStep.code : PStep → List PI
  | .name p l [] => [.namePush p l]
  | .name p l (b :: r) => .namePush p l :: .predicatesStart :: (blkCode (b :: r) ++ [.predicatesEnd])
  | .up => [.pathDotDot]
  | .dot => []

/-- steps, each after a `/` -/
def sepToks : List PStep → List Tok
  | [] => []
  | s :: r => .ch (chr '/') :: s.tok :: (s.rest ++ sepToks r)

def stepsCode : List PStep → List PI
  | [] => []
  | s :: r => s.code ++ stepsCode r

def pathToks : PRoot → List PStep → List Tok
  | .abs, [] => [.ch (chr '/')]
  | .abs, s :: r => sepToks (s :: r)
  | .rel f, steps => f.tok :: (f.rest ++ sepToks steps)
  | .cur, steps => .currentfunc :: .ch (chr '(') :: .ch (chr ')') :: sepToks steps

def pathCode : PRoot → List PStep → List PI
  | .abs, steps => .pathRoot :: (stepsCode steps ++ [.evalLocPath])
  | .rel f, steps => f.code ++ stepsCode steps ++ [.evalLocPath]
  | .cur, steps => .pathSetCurrent :: (stepsCode steps ++ [.evalLocPath])

/-- an expression as written: numbers, literals, location paths (with predicates), unary minus, the thirteen
    binary operators, parentheses, and function calls with up to three argument expressions -/
inductive PE where
  | path (root : PRoot) (steps : List PStep)
  | num (x : SF)
  | lit (s : List Rune)
  | paren (e : PE)
  | neg (e : PE)
  | bin (op : BinOp) (a b : PE)
  | union (a b : PE)
  | call0 (fn : Fn)
  | call1 (fn : Fn) (a : PE)
  | call2 (fn : Fn) (a b : PE)
  | call3 (fn : Fn) (a b c : PE)
  deriving Repr

def opTok : BinOp → Tok
  | .add => .ch (chr '+') | .sub => .ch (chr '-') | .mul => .ch (chr '*') | .div => .div | .mod => .mod
  | .and => .and | .or => .or | .eq => .eq | .ne => .ne | .lt => .lt | .gt => .gt | .le => .le | .ge => .ge

def level : BinOp → Nat
  | .or => 0 | .and => 1 | .eq => 2 | .ne => 2 | .lt => 3 | .gt => 3 | .le => 3 | .ge => 3
  | .add => 4 | .sub => 4 | .mul => 5 | .div => 5 | .mod => 5

def PE.toks : PE → List Tok
  | .path root steps => pathToks root steps
  | .num x => [.num x]
  | .lit s => [.lit s]
  | .paren e => .ch (chr '(') :: (e.toks ++ [.ch (chr ')')])
  | .neg e => .ch (chr '-') :: e.toks
  | .bin op a b => a.toks ++ opTok op :: b.toks
  | .union a b => a.toks ++ .ch (chr '|') :: b.toks
  | .call0 fn => [.func fn, .ch (chr '('), .ch (chr ')')]
  | .call1 fn a => .func fn :: .ch (chr '(') :: (a.toks ++ [.ch (chr ')')])
  | .call2 fn a b => .func fn :: .ch (chr '(') :: (a.toks ++ .ch (chr ',') :: (b.toks ++ [.ch (chr ')')]))
  | .call3 fn a b c =>
    .func fn :: .ch (chr '(') :: (a.toks ++ .ch (chr ',') :: (b.toks ++ .ch (chr ',') :: (c.toks ++ [.ch (chr ')')])))

/-- the tree's postfix code: parentheses leave no trace -/
def PE.code : PE → List PI
  | .path root steps => pathCode root steps
  | .num x => [.num x]
  | .lit s => [.lit s]
  | .paren e => e.code
  | .neg e => e.code ++ [.negate]
  | .bin op a b => a.code ++ b.code ++ [binPI op]
  | .union a b => a.code ++ b.code ++ [.union]
  | .call0 fn => [.bltin fn]
  | .call1 fn a => a.code ++ [.bltin fn]
  | .call2 fn a b => a.code ++ b.code ++ [.bltin fn]
  | .call3 fn a b c => a.code ++ b.code ++ c.code ++ [.bltin fn]

/-- a path-level expression (PathExpr): what `pPath` parses -/
def PE.pl : PE → Bool
  | .path .. | .num _ | .lit _ | .paren _ | .call0 _ | .call1 .. | .call2 .. | .call3 .. => true
  | _ => false

/-- a union-level expression (UnionExpr): a path-level expression or a union -/
def PE.ul : PE → Bool
  | .union .. => true
  | e => e.pl

/-- a token at which an expression of level `lvl` ends: no operator of that level or of one that binds tighter (the
    loops of those levels would go on), and nothing that continues a union, a filter expression or a path -/
def stopAt (lvl : Nat) (t : Tok) : Prop :=
  (∀ j, lvl ≤ j → binOpAt j t = none) ∧ t ≠ .ch (chr '|') ∧ t ≠ .ch (chr '[') ∧ t ≠ .ch (chr '/') ∧ t ≠ .dblslash ∧
    startsStep t = false

/-- the contents of a predicate parse as an expression (at level 0, up to the closing bracket) to their code -/
def BlkOK (b : Blk) : Prop :=
  ∀ (f : Nat) (s : PSt) (rest : List Tok), 20 * b.toks.length + 20 ≤ f → tk s = b.toks ++ rest →
    stopAt 0 (rest.headD .eof) → s.strict = false → pLevel f 0 s = .ok (doneG b.toks.length b.code s)

def PStep.ok (st : PStep) : Prop := ∀ b ∈ st.preds, BlkOK b

def pathOK : PRoot → List PStep → Prop
  | .rel f, steps => f.ok ∧ ∀ st ∈ steps, st.ok
  | _, steps => ∀ st ∈ steps, st.ok

/-- `e` can stand where an expression of binary level `lvl` (0 = or … 5 = multiplicative, 6 = unary) is
    expected without further parentheses: a left operand may be of the operator's own level
    (left-associativity), a right operand must bind tighter, the operand of unary minus is unary -/
def PE.fits : Nat → PE → Prop
  | _, .path root steps => pathOK root steps
  | _, .num _ => True
  | _, .lit _ => True
  | _, .paren e => e.fits 0
  | _, .neg e => e.fits 6
  | l, .bin op a b => l ≤ level op ∧ a.fits (level op) ∧ b.fits (level op + 1)
  | _, .union a b => a.ul = true ∧ a.fits 6 ∧ b.pl = true ∧ b.fits 6      -- left-associative, binds tighter than unary minus
  | _, .call0 fn => fn.sig.1.length = 0
  | _, .call1 fn a => fn.sig.1.length = 1 ∧ a.fits 0
  | _, .call2 fn a b => fn.sig.1.length = 2 ∧ a.fits 0 ∧ b.fits 0
  | _, .call3 fn a b c => fn.sig.1.length = 3 ∧ a.fits 0 ∧ b.fits 0 ∧ c.fits 0

def done (e : PE) (s : PSt) : PSt := { advN e.toks.length s with out := e.code.reverse ++ s.out }

/-! `T`, `U`, `Pth` and `BlkOK` below are `∀ fuel, bound → Reads …` written out, with `done e s` for the state.
    `done_eq`, `peek_done` and `T.reads`, `U.reads`, `U.of_reads`, `Pth.of_reads` pass between the two
    spellings (all by unfolding). -/

theorem done_eq (e : PE) (s : PSt) : done e s = doneG e.toks.length e.code s := rfl

theorem done_strict (e : PE) (s : PSt) : (done e s).strict = s.strict := rfl

theorem peek_done (e : PE) (s : PSt) (rest : List Tok) (h : tk s = e.toks ++ rest) :
    peekTok (done e s) = rest.headD .eof := peek_doneG_of e.code h

theorem level_le (op : BinOp) : level op ≤ 5 := by cases op <;> decide

/-- `binOpAt` is the table of `opTok`, `level` and `binPI` read backwards (an evaluation, level by level) -/
theorem binOpAt_opTok_eq (op : BinOp) (j : Nat) :
    binOpAt j (opTok op) = if j = level op then some (binPI op) else none := by
  match j with
  | 0 | 1 | 2 | 3 | 4 | 5 => cases op <;> exact rfl
  | j + 6 => exact (if_neg (Nat.ne_of_gt (Nat.lt_of_le_of_lt (level_le op) (Nat.le_add_left 6 j)))).symm

theorem binOpAt_opTok (op : BinOp) : binOpAt (level op) (opTok op) = some (binPI op) := by
  rw [binOpAt_opTok_eq, if_pos rfl]

theorem stopAt_opTok (op : BinOp) : stopAt (level op + 1) (opTok op) :=
  ⟨fun j hj => (binOpAt_opTok_eq op j).trans (if_neg (Nat.ne_of_gt hj)), by cases op <;> decide⟩

theorem stopAt_mono (a b : Nat) (t : Tok) (h : a ≤ b) (hs : stopAt a t) : stopAt b t :=
  ⟨fun j hj => hs.1 j (Nat.le_trans h hj), hs.2⟩

theorem stopAt_close (lvl : Nat) (t : Tok) (h : t = .ch (chr ')') ∨ t = .ch (chr ',') ∨ t = .ch (chr ']') ∨ t = .eof) :
    stopAt lvl t := by
  have hb : ∀ j, binOpAt j t = none := fun j => by
    match j with
    | 0 | 1 | 2 | 3 | 4 | 5 | _ + 6 => rcases h with rfl | rfl | rfl | rfl <;> rfl
  exact ⟨fun j _ => hb j, by rcases h with rfl | rfl | rfl | rfl <;> decide⟩

theorem stopAt_rparen (lvl : Nat) : stopAt lvl (.ch (chr ')')) := stopAt_close lvl _ (.inl rfl)
theorem stopAt_comma (lvl : Nat) : stopAt lvl (.ch (chr ',')) := stopAt_close lvl _ (.inr (.inl rfl))
theorem stopAt_rbracket (lvl : Nat) : stopAt lvl (.ch (chr ']')) := stopAt_close lvl _ (.inr (.inr (.inl rfl)))

theorem ch_ne {c d : Char} (h : chr c ≠ chr d) : Tok.ch (chr c) ≠ .ch (chr d) := fun h' => h (Tok.ch.inj h')

/-- the first token of an expression: a number, a literal, a function name, `current`, a name test, `..`, or one of
    the characters `(`, `-`, `/`, `.` -/
def startTok : Tok → Bool
  | .num _ | .lit _ | .func _ | .currentfunc | .nametest .. | .dotdot => true
  | .ch c => c = chr '(' || c = chr '-' || c = chr '/' || c = chr '.'
  | _ => false

theorem toks_start (e : PE) : ∃ t r, e.toks = t :: r ∧ startTok t := by
  induction e with
  | path root steps =>
    cases root with
    | abs => cases steps <;> exact ⟨_, _, rfl, rfl⟩
    | rel f => cases f <;> exact ⟨_, _, rfl, rfl⟩
    | cur => exact ⟨_, _, rfl, rfl⟩
  | bin op a b iha _ =>
    obtain ⟨t, r, h, ht⟩ := iha
    exact ⟨t, r ++ opTok op :: b.toks, congrArg (· ++ _) h, ht⟩
  | union a b iha _ =>
    obtain ⟨t, r, h, ht⟩ := iha
    exact ⟨t, r ++ .ch (chr '|') :: b.toks, congrArg (· ++ _) h, ht⟩
  | _ => exact ⟨_, _, rfl, rfl⟩

/-- (`e.toks ++ y ++ rest`, bracketed so, is the shape of the side condition of `Reads.ite_neg` where `e` is followed
    by further tokens `y` of the same construct) -/
theorem first_not_rparen (e : PE) (y rest : List Tok) : (e.toks ++ y ++ rest).headD .eof ≠ .ch (chr ')') := by
  obtain ⟨t, r, hr, h⟩ := toks_start e
  rw [hr]
  rintro rfl
  exact absurd h (by decide)

/-- the fuel that is enough below the binary levels (a generous bound, not the least).  20 for each token, since a
    token (`(`, `,`, `[`, an operator) can be followed by a sub-expression that is parsed from level 0 again:
    12 for the six binary levels (two each: `pLevel`, `pLevelRest`) and up to 8 for the functions below them
    (`pUnary`, `pPath`, `pFilterPath`, `pPrimary`, `pPreds` or `pRelPath`, `pStep`, …); the 8 is that second part for
    `e` itself. -/
def B (e : PE) : Nat := 20 * e.toks.length + 8

/-- parsing at binary level `lvl` -/
def T (e : PE) (lvl : Nat) : Prop :=
  ∀ (f : Nat) (s : PSt) (rest : List Tok), B e + 2 * (6 - lvl) ≤ f → tk s = e.toks ++ rest →
    stopAt lvl (rest.headD .eof) → s.strict = false → pLevel f lvl s = .ok (done e s)

/-- parsing at level `k` when the loop of that level goes on after `e` (`pLevel_loop`: the bind is `pLevel (f + 1) k`) -/
def C (e : PE) (k : Nat) : Prop :=
  ∀ (f : Nat) (s : PSt) (rest : List Tok) (G : Nat) (r : P PSt), B e + 2 * (6 - (k + 1)) + G ≤ f →
    tk s = e.toks ++ rest → stopAt (k + 1) (rest.headD .eof) → s.strict = false →
    (∀ g, G ≤ g → pLevelRest g k (done e s) = r) → (pLevel f (k + 1) s >>= pLevelRest f k) = r

/-- parsing a unary expression -/
def U (e : PE) : Prop :=
  ∀ (g : Nat) (s : PSt) (rest : List Tok), B e ≤ g + 1 → tk s = e.toks ++ rest →
    stopAt 6 (rest.headD .eof) → s.strict = false → pUnary g s = .ok (done e s)

/-- where a path-level expression (an operand of '|') may end: at anything that is neither a predicate nor a continuation
    of the path — the '|' included -/
def stopP (t : Tok) : Prop :=
  t ≠ .ch (chr '[') ∧ t ≠ .ch (chr '/') ∧ t ≠ .dblslash ∧ startsStep t = false

theorem stopP_of_stopAt {lvl : Nat} {t : Tok} (h : stopAt lvl t) : stopP t := ⟨h.2.2.1, h.2.2.2.1, h.2.2.2.2.1, h.2.2.2.2.2⟩

theorem stopP_bar : stopP (.ch (chr '|')) := by unfold stopP; decide

/-- parsing a path-level expression -/
def Pth (e : PE) : Prop :=
  ∀ (g : Nat) (s : PSt) (rest : List Tok), B e ≤ g + 2 → tk s = e.toks ++ rest →
    stopP (rest.headD .eof) → s.strict = false → pPath g s = .ok (done e s)

theorem T.reads {e : PE} {lvl : Nat} (h : T e lvl) {f : Nat} (hf : B e + 2 * (6 - lvl) ≤ f) :
    Reads (pLevel f lvl) e.toks e.code (stopAt lvl) := fun s rest => h f s rest hf

theorem U.reads {e : PE} (h : U e) {g : Nat} (hg : B e ≤ g + 1) : Reads (pUnary g) e.toks e.code (stopAt 6) :=
  fun s rest => h g s rest hg

theorem U.of_reads {e : PE} (h : ∀ g, B e ≤ g + 1 → Reads (pUnary g) e.toks e.code (stopAt 6)) : U e :=
  fun g s rest hg => h g hg s rest

theorem Pth.of_reads {e : PE} (h : ∀ g, B e ≤ g + 2 → Reads (pPath g) e.toks e.code stopP) : Pth e :=
  fun g s rest hg => h g hg s rest

/-- under a bound `n + c ≤ g + k` (such as `B e ≤ g + k`, where `c` is 8) the fuel `g` is `g' + j` for any `j + k ≤ c` -/
theorem fuel_pos {n c g k : Nat} (j : Nat) (h : n + c ≤ g + k) (hj : j + k ≤ c) : ∃ g', g = g' + j :=
  ⟨g - j, (Nat.sub_add_cancel (Nat.le_of_add_le_add_right
    (Nat.le_trans hj (Nat.le_trans (Nat.le_add_left c n) h)))).symm⟩

/-- the fuel for a proper part: one token less leaves 20 units more beside those for the tokens -/
theorem fuel_part {n m c d k g : Nat} (hn : n < m) (hc : c + k ≤ d + 20) (hg : 20 * m + d ≤ g + k) : 20 * n + c ≤ g := by
  have := Nat.mul_le_mul_left 20 hn; omega

/-- an argument of a call, or what stands between parentheses, is parsed from level 0 by the fuel of the primary
    expression -/
theorem T.part {a e : PE} (h : T a 0) (hl : a.toks.length < e.toks.length) {g : Nat} (hg : B e ≤ g + 5) :
    Reads (pLevel g 0) a.toks a.code (stopAt 0) :=
  h.reads (show 20 * a.toks.length + 20 ≤ g from fuel_part hl (by decide) hg)

/-! The parser functions recurse on the fuel, so with fuel `f + 1` each of them computes to its body: the branch of an
    `if` is taken by `if_pos`, `if_neg`; where the body is a `match`, `whnf` exposes it (the equation lemma of the function
    would do the same, but it is generated anew for every declaration that asks for it). -/

theorem pLevel_unary (f : Nat) (s : PSt) : pLevel (f + 1) 6 s = pUnary f s := rfl

theorem pLevel_loop (f k : Nat) (s : PSt) (hk : k ≤ 5) : pLevel (f + 1) k s = pLevel f (k + 1) s >>= pLevelRest f k :=
  if_neg (Nat.not_le.2 (Nat.lt_succ_of_le hk))

theorem pLevelRest_op (g k : Nat) (s : PSt) (i : PI) (h : binOpAt k (peekTok s) = some i) :
    pLevelRest (g + 1) k s = (pLevel g (k + 1) (adv s) >>= fun s2 => pLevelRest g k (emit s2 i)) := by
  conv => lhs; whnf; simp only [h]

theorem pLevelRest_stop (g k : Nat) (s : PSt) (h : binOpAt k (peekTok s) = none) : pLevelRest (g + 1) k s = .ok s := by
  conv => lhs; whnf; simp only [h]
  rfl

/-- level 6 is the unary level -/
theorem T6_of_U (e : PE) (h : U e) : T e 6 := by
  intro f s rest (hf : B e ≤ f) ht hs hst
  obtain ⟨f, rfl⟩ := fuel_pos (k := 0) 1 hf (by decide)
  exact (pLevel_unary f s).trans (h f s rest hf ht hs hst)

theorem C_of_T (e : PE) (k : Nat) (h : T e (k + 1)) : C e k := by
  intro f s rest G r hf ht hs hst hr
  rw [h f s rest (Nat.le_trans (Nat.le_add_right _ G) hf) ht hs hst]
  exact hr f (Nat.le_trans (Nat.le_add_left G _) hf)

/-- two units of fuel for each level: one for `pLevel`, one for `pLevelRest` -/
theorem level_fuel (k : Nat) (hk : k ≤ 5) : 2 * (6 - k) = 2 * (6 - (k + 1)) + 2 :=
  congrArg (2 * ·) (Nat.succ_pred_eq_of_pos (Nat.sub_pos_of_lt (Nat.lt_succ_of_le hk))).symm

/-- the loop of level `lvl` stops at a token that is not one of its operators -/
theorem T_of_C (e : PE) (lvl : Nat) (hl : lvl ≤ 5) (h : C e lvl) : T e lvl := by
  intro f s rest hf ht hs hst
  rw [level_fuel lvl hl] at hf
  obtain ⟨f, rfl⟩ := Nat.exists_eq_add_one.2 (Nat.lt_of_lt_of_le (Nat.succ_pos _) hf)
  rw [pLevel_loop f lvl s hl]
  apply h f s rest 1 _ (Nat.le_of_succ_le_succ hf) ht (stopAt_mono _ _ _ (Nat.le_succ _) hs) hst
  intro g hg
  obtain ⟨g, rfl⟩ := Nat.exists_eq_add_one.2 hg
  exact pLevelRest_stop g lvl _ (by rw [peek_done e s rest ht]; exact hs.1 lvl (Nat.le_refl _))

/-- down the ladder: the loops of the levels below the one at which `e` is parsed directly pass it on -/
theorem T_down {e : PE} {k top : Nat} (hk : k ≤ top) (htop : top ≤ 6) (h : T e top) : T e k := by
  induction hk with
  | refl => exact h
  | step _ ih =>
    exact ih (Nat.le_of_succ_le htop) (T_of_C e _ (Nat.le_of_succ_le_succ htop) (C_of_T e _ h))

theorem pPreds_stop (f : Nat) (s : PSt) (h : peekTok s ≠ .ch (chr '[')) : pPreds (f + 1) s = .ok s := if_neg h

theorem pUnionRest_stop (f : Nat) (s : PSt) (h : peekTok s ≠ .ch (chr '|')) : pUnionRest (f + 1) s = .ok s := if_neg h

/-- after a primary expression with its predicates (`filterTail`) and after a step (`relTail`): at `/` the path goes on
    (`A`), at `//` too (`B`, unsupported), anything else ends it -/
abbrev slashTail (A B : PSt → P PSt) (s : PSt) : P PSt :=
  match peekTok s with
  | .ch c => if c = chr '/' then A s else pure s
  | .dblslash => B s
  | _ => pure s

theorem slashTail_stop (A B : PSt → P PSt) (s : PSt) (h1 : peekTok s ≠ .ch (chr '/')) (h2 : peekTok s ≠ .dblslash) :
    slashTail A B s = .ok s := by
  unfold slashTail
  split
  · rename_i c hc
    have : c ≠ chr '/' := fun e => h1 (by rw [hc, e])
    simp only [this, ↓reduceIte]; rfl
  · rename_i hc; exact absurd hc h2
  · rfl

theorem slashTail_slash (A B : PSt → P PSt) (s : PSt) (h : peekTok s = .ch (chr '/')) : slashTail A B s = A s := by
  simp only [slashTail, h, ↓reduceIte]

abbrev filterTail (f : Nat) : PSt → P PSt :=
  slashTail (fun s => pRelPath f (adv (emit s .filterExprEnd)) >>= out .evalLocPath)
    fun s => pRelPath f (setErr (adv (emit s .filterExprEnd)) "// unsupported") >>= out .evalLocPath

theorem pFilterPath_succ (f : Nat) (s : PSt) :
    pFilterPath (f + 1) s = (pPrimary f s >>= fun s => pPreds f s >>= filterTail f) := rfl

theorem pUnary_pos (f : Nat) (s : PSt) (h : peekTok s ≠ .ch (chr '-')) :
    pUnary (f + 1) s = (pPath f s >>= pUnionRest f) := if_neg h

theorem pUnary_neg (f : Nat) (s : PSt) (h : peekTok s = .ch (chr '-')) :
    pUnary (f + 1) s = (do let s ← skip s; let s ← pUnary f s; out .negate s) := if_pos h

theorem pPath_num (x : SF) (f : Nat) (s : PSt) (h : peekTok s = .num x) : pPath (f + 1) s = pFilterPath f s := by
  conv => lhs; whnf; simp only [h]

theorem pPath_lit (l : List Rune) (f : Nat) (s : PSt) (h : peekTok s = .lit l) : pPath (f + 1) s = pFilterPath f s := by
  conv => lhs; whnf; simp only [h]

theorem pPath_paren (f : Nat) (s : PSt) (h : peekTok s = .ch (chr '(')) : pPath (f + 1) s = pFilterPath f s := by
  conv => lhs; whnf; simp only [h, ↓reduceIte]

theorem pPath_func (fn : Fn) (f : Nat) (s : PSt) (h : peekTok s = .func fn) : pPath (f + 1) s = pFilterPath f s := by
  conv => lhs; whnf; simp only [h]

theorem pPrimary_num (f : Nat) (x : SF) (s : PSt) (h : peekTok s = .num x) : pPrimary (f + 1) s = shift (.num x) s := by
  conv => lhs; whnf; simp only [h]

theorem pPrimary_lit (f : Nat) (l : List Rune) (s : PSt) (h : peekTok s = .lit l) : pPrimary (f + 1) s = shift (.lit l) s := by
  conv => lhs; whnf; simp only [h]

theorem pPrimary_paren (f : Nat) (s : PSt) (h : peekTok s = .ch (chr '(')) :
    pPrimary (f + 1) s = (do
      let s ← skip s
      if peekTok s = .ch (chr ')') then (if s.strict then synErr s else skip s) else do
      let s ← pLevel f 0 s
      expectCh ')' s) := by
  conv => lhs; whnf; simp only [h, ↓reduceIte]
  rfl

/-- a primary that ends in state `s1`, followed by a token at which a path-level expression stops -/
theorem path_of_primary (g : Nat) (s s1 : PSt)
    (hpath : pPath (g + 1 + 1) s = pFilterPath (g + 1) s)
    (hprim : pPrimary g s = .ok s1) (hs : stopP (peekTok s1)) :
    pPath (g + 1 + 1) s = .ok s1 := by
  rw [hpath, pFilterPath_succ, hprim, ok_bind]
  cases g with
  | zero => cases hprim
  | succ g =>
    rw [pPreds_stop g s1 hs.1, ok_bind]
    exact slashTail_stop _ _ s1 hs.2.1 hs.2.2.1

theorem Reads.primary {g : Nat} {t : Tok} {ts : List Tok} {c : List PI}
    (hpath : ∀ s, peekTok s = t → pPath (g + 1 + 1) s = pFilterPath (g + 1) s)
    (hp : Reads (pPrimary g) (t :: ts) c stopP) : Reads (pPath (g + 1 + 1)) (t :: ts) c stopP :=
  fun s rest ht hs hst => path_of_primary g s _ (hpath s (peek_cons ht)) (hp s rest ht hs hst)
    (by rw [peek_doneG_of c ht]; exact hs)

/-- (`g + 5`: `Pth` grants `B e ≤ g' + 2`, and `pPath`, `pFilterPath`, `pPrimary` each take one unit: `g' = g + 3`) -/
theorem Pth.of_primary {e : PE} {t : Tok} {ts : List Tok} (hts : e.toks = t :: ts)
    (hpath : ∀ f s, peekTok s = t → pPath (f + 1) s = pFilterPath f s)
    (hp : ∀ g, B e ≤ g + 5 → Reads (pPrimary (g + 1)) (t :: ts) e.code stopP) : Pth e :=
  .of_reads fun g hg => by
    obtain ⟨g, rfl⟩ := fuel_pos 3 hg (by decide)
    exact hts ▸ Reads.primary (hpath _) (hp g hg)

theorem pl_first (e : PE) (h : e.pl = true) (rest : List Tok) : (e.toks ++ rest).headD .eof ≠ .ch (chr '-') := by
  cases e with
  | neg _ | bin _ _ _ | union _ _ => cases h
  | path root steps =>
    cases root with
    | abs => cases steps <;> exact ch_ne (by decide)
    | rel f => cases f <;> first | exact nofun | exact ch_ne (by decide)
    | cur => exact nofun
  | paren _ => exact ch_ne (by decide)
  | _ => exact nofun

/-- a union-level expression where a unary expression is expected, the loop over '|' going on after it -/
def UC (e : PE) : Prop :=
  ∀ (g : Nat) (s : PSt) (rest : List Tok) (G : Nat) (r : P PSt), 1 ≤ G → B e + G ≤ g + 3 → tk s = e.toks ++ rest →
    stopP (rest.headD .eof) → s.strict = false →
    (∀ g', G ≤ g' → pUnionRest g' (done e s) = r) → (pPath g s >>= pUnionRest g) = r

theorem UC_of_Pth (e : PE) (h : Pth e) : UC e := by
  intro g s rest G r hG hg ht hs hst hr
  rw [h g s rest (Nat.le_of_succ_le_succ (Nat.le_trans (Nat.add_le_add_left hG _) hg)) ht hs hst, ok_bind]
  exact hr g (by have : 8 ≤ B e := Nat.le_add_left 8 _; omega)

theorem U_of_UC (e : PE) (h : UC e) (hfirst : ∀ rest, (e.toks ++ rest).headD .eof ≠ .ch (chr '-')) : U e := by
  intro g s rest hg ht hs hst
  obtain ⟨g, rfl⟩ := fuel_pos 1 hg (by decide)
  have hneg : peekTok s ≠ .ch (chr '-') := by rw [peek_tk, ht]; exact hfirst rest
  rw [pUnary_pos _ _ hneg]
  apply h g s rest 1 _ (Nat.le_refl _) (Nat.succ_le_succ hg) ht (stopP_of_stopAt hs) hst
  intro g' hg'
  obtain ⟨g', rfl⟩ := Nat.exists_eq_add_one.2 hg'
  exact pUnionRest_stop _ _ (by rw [peek_done e s rest ht]; exact hs.2.1)

/-- a path-level expression where a unary expression is expected: no '|' follows -/
theorem U_of_Pth (e : PE) (hp : Pth e) (hpl : e.pl = true) : U e := U_of_UC e (UC_of_Pth e hp) (pl_first e hpl)

theorem P_num (x : SF) : Pth (.num x) :=
  .of_primary rfl (pPath_num x) fun g _ => .of_peek (pPrimary_num g x) (.shift _ _)

theorem P_lit (l : List Rune) : Pth (.lit l) :=
  .of_primary rfl (pPath_lit l) fun g _ => .of_peek (pPrimary_lit g l) (.shift _ _)

theorem U_neg (e : PE) (he : U e) : U (.neg e) := .of_reads fun g hg => by
  obtain ⟨g, rfl⟩ := fuel_pos 1 hg (by decide)
  exact .of_peek (pUnary_neg g) ((Reads.skip _).andThen (.thenOut _
    (he.reads (fuel_part (Nat.lt_succ_self _) (by decide) hg))))

theorem P_paren (e : PE) (he : T e 0) : Pth (.paren e) := .of_primary rfl pPath_paren fun g hg =>
  .of_peek (pPrimary_paren g) ((Reads.skip _).andThen (.ite_neg
    (fun _ _ => first_not_rparen e _ _) ((he.part (by simp +arith [PE.toks]) hg).thenExpect ')' (stopAt_rparen 0))))

/-- the end of a call: the arity check, then the instruction -/
abbrev callEnd (fn : Fn) (n : Nat) (s : PSt) : P PSt :=
  pure (emit (if n ≠ fn.sig.1.length then setErr s "wrong number of arguments" else s) (.bltin fn))

theorem Reads.callEnd {fn : Fn} {n : Nat} {st : Tok → Prop} (h : fn.sig.1.length = n) :
    Reads (callEnd fn n) [] [.bltin fn] st :=
  (show XP.callEnd fn n = XP.out (.bltin fn) by funext s; simp [XP.callEnd, h]) ▸ .out _

theorem pPrimary_call (f : Nat) (fn : Fn) (s : PSt) (h : peekTok s = .func fn) :
    pPrimary (f + 1) s = (do
      let s ← skip s; let s ← expectCh '(' s
      if peekTok s = .ch (chr ')') then skip s >>= callEnd fn 0 else do
      let s ← pLevel f 0 s
      if peekTok s = .ch (chr ')') then skip s >>= callEnd fn 1 else do
      let s ← expectCh ',' s; let s ← pLevel f 0 s
      if peekTok s = .ch (chr ')') then skip s >>= callEnd fn 2 else do
      let s ← expectCh ',' s; let s ← pLevel f 0 s; let s ← expectCh ')' s
      callEnd fn 3 s) := by
  conv => lhs; whnf; simp only [h]
  rfl

/-- used as `by exact comma_ne_rparen`: the side condition of `Reads.ite_neg` is about the head of a token list that is
    known only once the rest of the term is elaborated, and the tactic block waits for that -/
theorem comma_ne_rparen : (Tok.ch (chr ',')) ≠ .ch (chr ')') := by decide

theorem P_call0 (fn : Fn) (har : fn.sig.1.length = 0) : Pth (.call0 fn) := .of_primary rfl (pPath_func fn) fun g _ =>
  .of_peek (pPrimary_call g fn) ((Reads.skip _).andThen ((Reads.expect '(').andThen
    (.ite_pos ((Reads.skip _).andThen (.callEnd har)))))

theorem P_call1 (fn : Fn) (a : PE) (har : fn.sig.1.length = 1) (ha : T a 0) : Pth (.call1 fn a) :=
  .of_primary rfl (pPath_func fn) fun g hg => by
  have ha := ha.part (by simp +arith [PE.toks]) hg
  exact .of_peek (pPrimary_call g fn) ((Reads.skip _).andThen ((Reads.expect '(').andThen
    (.ite_neg (fun _ _ => first_not_rparen a _ _) (ha.bind (.ite_pos ((Reads.skip _).andThen (.callEnd har)))
      fun _ _ => stopAt_rparen 0))))

theorem P_call2 (fn : Fn) (a b : PE) (har : fn.sig.1.length = 2) (ha : T a 0) (hb : T b 0) : Pth (.call2 fn a b) :=
  .of_primary rfl (pPath_func fn) fun g hg => by
  have ha := ha.part (by simp +arith [PE.toks]) hg
  have hb := hb.part (by simp +arith [PE.toks]) hg
  exact (Reads.of_peek (pPrimary_call g fn) ((Reads.skip _).andThen ((Reads.expect '(').andThen
    (.ite_neg (fun _ _ => first_not_rparen a _ _) (ha.bind (.ite_neg (fun _ _ => by exact comma_ne_rparen)
      ((Reads.expect ',').andThen (hb.bind (.ite_pos ((Reads.skip _).andThen (.callEnd har)))
        fun _ _ => stopAt_rparen 0))) fun _ _ => stopAt_comma 0))))).cast rfl (by simp [PE.code])

theorem P_call3 (fn : Fn) (a b c : PE) (har : fn.sig.1.length = 3) (ha : T a 0) (hb : T b 0) (hc : T c 0) :
    Pth (.call3 fn a b c) := .of_primary rfl (pPath_func fn) fun g hg => by
  have ha := ha.part (by simp +arith [PE.toks]) hg
  have hb := hb.part (by simp +arith [PE.toks]) hg
  have hc := hc.part (by simp +arith [PE.toks]) hg
  exact (Reads.of_peek (pPrimary_call g fn) ((Reads.skip _).andThen ((Reads.expect '(').andThen
    (.ite_neg (fun _ _ => first_not_rparen a _ _) (ha.bind (.ite_neg (fun _ _ => by exact comma_ne_rparen)
      ((Reads.expect ',').andThen (hb.bind (.ite_neg (fun _ _ => by exact comma_ne_rparen)
        ((Reads.expect ',').andThen (hc.bind ((Reads.expect ')').andThen (.callEnd har)) fun _ _ => stopAt_rparen 0)))
        fun _ _ => stopAt_comma 0))) fun _ _ => stopAt_comma 0))))).cast rfl (by simp [PE.code])

theorem U_num (x : SF) : U (.num x) := U_of_Pth _ (P_num x) rfl
theorem U_lit (l : List Rune) : U (.lit l) := U_of_Pth _ (P_lit l) rfl
theorem U_paren (e : PE) (he : T e 0) : U (.paren e) := U_of_Pth _ (P_paren e he) rfl
theorem U_call0 (fn : Fn) (har : fn.sig.1.length = 0) : U (.call0 fn) := U_of_Pth _ (P_call0 fn har) rfl
theorem U_call1 (fn : Fn) (a : PE) (har : fn.sig.1.length = 1) (ha : T a 0) : U (.call1 fn a) :=
  U_of_Pth _ (P_call1 fn a har ha) rfl
theorem U_call2 (fn : Fn) (a b : PE) (har : fn.sig.1.length = 2) (ha : T a 0) (hb : T b 0) : U (.call2 fn a b) :=
  U_of_Pth _ (P_call2 fn a b har ha hb) rfl
theorem U_call3 (fn : Fn) (a b c : PE) (har : fn.sig.1.length = 3) (ha : T a 0) (hb : T b 0) (hc : T c 0) :
    U (.call3 fn a b c) := U_of_Pth _ (P_call3 fn a b c har ha hb hc) rfl

theorem pPreds_cons (f : Nat) (s : PSt) (h : peekTok s = .ch (chr '[')) :
    pPreds (f + 1) s = (do
      let s ← shift .predStart s; let s ← pLevel f 0 s; let s ← expectCh ']' s; let s ← out .predEnd s; pPreds f s) :=
  if_pos h

theorem pPreds_reads (preds : List Blk) : ∀ f, (∀ b ∈ preds, BlkOK b) → 20 * (blkToks preds).length + 1 ≤ f →
    Reads (pPreds f) (blkToks preds) (blkCode preds) (· ≠ .ch (chr '[')) := by
  induction preds with
  | nil =>
    intro f _ hf
    obtain ⟨f, rfl⟩ := fuel_pos (k := 0) 1 hf (by decide)
    exact .of_stop (pPreds_stop f)
  | cons b r ih =>
    intro f hok hf
    obtain ⟨f, rfl⟩ := fuel_pos (k := 0) 1 hf (by decide)
    have hok := List.forall_mem_cons.1 hok
    have hb : Reads (pLevel f 0) b.toks b.code (stopAt 0) :=
      fun s rest => hok.1 f s rest (fuel_part (by simp +arith [blkToks]) (by decide) hf)
    exact .of_peek (pPreds_cons f) ((Reads.shift _ _).andThen (hb.bind ((Reads.expect ']').andThen ((Reads.out _).andThen
      (ih f hok.2 (fuel_part (by simp +arith [blkToks]) (by decide) hf)))) fun _ _ => stopAt_rbracket 0))

theorem step_toks_length (st : PStep) : (st.tok :: st.rest).length = 1 + st.rest.length := Nat.add_comm ..

theorem pStep_name (f : Nat) (p l : List Rune) (s : PSt) (h : peekTok s = .nametest p l) :
    pStep (f + 1) s = (do
      let s ← shift (.namePush p l) s
      if peekTok s = .ch (chr '[') then do
        let s ← out .predicatesStart s; let s ← pPreds f s; out .predicatesEnd s
      else pure s) := by
  conv => lhs; whnf; simp only [h]
  rfl

theorem pStep_up (f : Nat) (s : PSt) (h : peekTok s = .dotdot) : pStep (f + 1) s = shift .pathDotDot s := by
  conv => lhs; whnf; simp only [h]

theorem pStep_dot (f : Nat) (s : PSt) (h : peekTok s = .ch (chr '.')) : pStep (f + 1) s = skip s := by
  conv => lhs; whnf; simp only [h, ↓reduceIte]

theorem pStep_reads (f : Nat) (st : PStep) (hok : st.ok) (hf : 20 * st.rest.length + 1 ≤ f) :
    Reads (pStep (f + 1)) (st.tok :: st.rest) st.code (· ≠ .ch (chr '[')) := by
  cases st with
  | name p l preds =>
    cases preds with
    | nil => exact .of_peek (pStep_name f p l) ((Reads.shift _ _).andThen (.ite_neg (fun _ h => h) .pure))
    | cons b r =>
      exact .of_peek (pStep_name f p l) ((Reads.shift _ _).andThen (.ite_pos ((Reads.out _).andThen
        (.thenOut _ (pPreds_reads (b :: r) f hok hf)))))
  | up => exact .of_peek (pStep_up f) (.shift _ _)
  | dot => exact .of_peek (pStep_dot f) (.skip _)

abbrev relTail (f : Nat) : PSt → P PSt :=
  slashTail (fun s => skip s >>= pRelPath f) fun s => pRelPath f (setErr (adv s) "// unsupported")

theorem pRelPath_succ (f : Nat) (s : PSt) : pRelPath (f + 1) s = pStep f s >>= relTail f := rfl

/-- the tokens of a step followed by further steps each after a `/` -/
def relToks (st : PStep) (r : List PStep) : List Tok := st.tok :: (st.rest ++ sepToks r)

theorem sepToks_cons (st : PStep) (r : List PStep) : sepToks (st :: r) = .ch (chr '/') :: relToks st r := rfl

theorem relPath_reads (r : List PStep) : ∀ (st : PStep) (f : Nat), st.ok → (∀ x ∈ r, x.ok) →
    20 * (relToks st r).length + 5 ≤ f → Reads (pRelPath f) (relToks st r) (st.code ++ stepsCode r) stopP := by
  induction r with
  | nil =>
    intro st f hok _ hf
    obtain ⟨f, rfl⟩ := fuel_pos (k := 0) 2 hf (by decide)
    exact .of_fun_eq (pRelPath_succ (f + 1)) ((pStep_reads f st hok (fuel_part (by simp +arith [relToks]) (by decide) hf)).bind
      (.of_stop fun s h => slashTail_stop _ _ s h.2.1 h.2.2.1) fun _ h => h.1)
  | cons st2 r ih =>
    intro st f hok hoks hf
    obtain ⟨f, rfl⟩ := fuel_pos (k := 0) 2 hf (by decide)
    have hoks := List.forall_mem_cons.1 hoks
    exact .of_fun_eq (pRelPath_succ (f + 1)) ((pStep_reads f st hok (fuel_part (by simp +arith [relToks]) (by decide) hf)).bind
      (.of_peek (slashTail_slash _ _) ((Reads.skip _).andThen (ih st2 (f + 1) hoks.1 hoks.2
        (fuel_part (k := 1) (by simp +arith [relToks, sepToks]) (by decide) hf))))
      fun _ _ => ch_ne (by decide))

theorem step_starts (st : PStep) : startsStep st.tok = true := by
  cases st <;> rfl

theorem pPath_abs (g : Nat) (s : PSt) (h : peekTok s = .ch (chr '/')) :
    pPath (g + 1) s = (do
      let s ← shift .pathRoot s
      if startsStep (peekTok s) = true then pRelPath g s >>= out .evalLocPath else out .evalLocPath s) := by
  conv => lhs; whnf; simp only [h, show chr '/' ≠ chr '(' by decide, ↓reduceIte]
  rfl

theorem pPath_cur (g : Nat) (s : PSt) (h : peekTok s = .currentfunc) :
    pPath (g + 1) s = (do
      let s ← skip s; let s ← expectCh '(' s; let s ← expectCh ')' s; let s ← out .pathSetCurrent s
      if peekTok s = .ch (chr '/') then skip s >>= pRelPath g >>= out .evalLocPath else out .evalLocPath s) := by
  conv => lhs; whnf; simp only [h]
  rfl

theorem pPath_step (g : Nat) (st : PStep) (s : PSt) (h : peekTok s = st.tok) :
    pPath (g + 1) s = pRelPath g s >>= out .evalLocPath := by
  conv => lhs; whnf
  rw [h]
  cases st <;> rfl

theorem P_path (root : PRoot) (steps : List PStep) (hok : pathOK root steps) : Pth (.path root steps) :=
  .of_reads fun g hg => by
  obtain ⟨g, rfl⟩ := fuel_pos 1 hg (by decide)
  cases root with
  | abs =>
    cases steps with
    | nil =>
      exact .of_peek (pPath_abs g) ((Reads.shift _ _).andThen
        (.test_neg (startsStep · = true) (fun _ h => Bool.eq_false_iff.1 h.2.2.2) (.out _)))
    | cons st r =>
      have hok := List.forall_mem_cons.1 hok
      exact .of_peek (pPath_abs g) ((Reads.shift _ _).andThen (.test_pos (startsStep · = true) (step_starts st)
        (.thenOut _ (relPath_reads r st g hok.1 hok.2 (fuel_part (k := 3) (Nat.lt_succ_self _) (by decide) hg)))))
  | rel st =>
    exact .of_peek (pPath_step g st) (.thenOut _ (relPath_reads steps st g hok.1 hok.2 (Nat.le_of_add_le_add_right (b := 3) hg)))
  | cur =>
    refine .of_peek (pPath_cur g) ((Reads.skip _).andThen ((Reads.expect '(').andThen ((Reads.expect ')').andThen
      ((Reads.out _).andThen ?_))))
    cases steps with
    | nil => exact .ite_neg (fun _ h => h.2.1) (.out _)
    | cons st r =>
      have hok := List.forall_mem_cons.1 hok
      exact .ite_pos (.thenOut _ ((Reads.skip _).andThen (relPath_reads r st g hok.1 hok.2
        (fuel_part (k := 3) (Nat.lt_add_of_pos_right (Nat.succ_pos 3)) (by decide) hg))))

theorem U_path (root : PRoot) (steps : List PStep) (hok : pathOK root steps) : U (.path root steps) :=
  U_of_Pth _ (P_path root steps hok) rfl

theorem B_infix (a b : PE) (t : Tok) : 20 * (a.toks ++ t :: b.toks).length + 8 = B a + B b + 12 := by
  simp only [B, List.length_append, List.length_cons]; omega

/-- the fuel `A + A' + 12` of `a t b` (`B_infix`), with `X` for the levels above and `G` more, read as the fuel of `a` and of
    a turn of a loop (`loop_turn`) that reads `b`: the 12 cover the turn and `X` a second time -/
theorem turn_fuel {A A' X G f : Nat} (hX : X ≤ 10) (hf : A + A' + 12 + X + G ≤ f) : A + X + (A' + X + G + 1) ≤ f := by
  omega

/-- one turn of a left-associative loop: `L` (`pLevelRest` of a level, `pUnionRest`), standing after the operands `ts`
    read so far at its operator `t`, reads `t` and with `X` one more operand `us`, emits the operator's instruction `i`
    after the operand's code, and stands after `ts ++ t :: us`: the tokens of a left-nested tree, with its postfix code.
    So what the loop returns from there (`hr`) it returns after `ts`, given one unit of fuel more than `X` and `hr` need. -/
theorem loop_turn {L X : Nat → PSt → P PSt} {t : Tok} {i : PI}
    (hL : ∀ g s, peekTok s = t → L (g + 1) s = (X g (adv s) >>= fun s2 => L g (emit s2 i)))
    {m : Nat} {us : List Tok} {d : List PI} {st : Tok → Prop} (hX : ∀ g, m ≤ g → Reads (X g) us d st)
    {s : PSt} {ts rest : List Tok} {c : List PI} {r : P PSt} {G : Nat}
    (ht : tk s = ts ++ t :: (us ++ rest)) (hs : st (rest.headD .eof)) (hst : s.strict = false)
    (hr : ∀ g, G ≤ g → L g (doneG (ts ++ t :: us).length (c ++ d ++ [i]) s) = r) (g : Nat) (hg : m + G + 1 ≤ g) :
    L g (doneG ts.length c s) = r := by
  obtain ⟨g, rfl⟩ := Nat.exists_eq_add_one.2 (Nat.lt_of_lt_of_le (Nat.succ_pos _) hg)
  have hmG : m + G ≤ g := Nat.le_of_succ_le_succ hg
  have hta : tk (adv (doneG ts.length c s)) = us ++ rest := by rw [tk_adv, tk_doneG_of c ht]; rfl
  rw [hL g _ (peek_doneG_of c ht), hX g (Nat.le_trans (Nat.le_add_right m G) hmG) _ rest hta hs hst, ok_bind]
  refine Eq.trans (congrArg (L g) ?_) (hr g (Nat.le_trans (Nat.le_add_left G m) hmG))
  show doneG 0 [i] (doneG us.length d (doneG 1 [] (doneG ts.length c s))) = _
  simp only [doneG_doneG, List.length_append, List.length_cons, List.append_nil, Nat.add_zero, Nat.add_assoc]
  rw [Nat.add_comm 1]

theorem C_bin (op : BinOp) (a b : PE) (ha : C a (level op)) (hb : T b (level op + 1)) :
    C (.bin op a b) (level op) := by
  intro f s rest G r hf ht hs hst hr
  have hta : tk s = a.toks ++ (opTok op :: (b.toks ++ rest)) := ht.trans (List.append_assoc ..)
  have hX : 2 * (6 - (level op + 1)) ≤ 10 := Nat.mul_le_mul_left 2 (Nat.sub_le_sub_left (Nat.succ_pos _) 6)
  rw [show B (.bin op a b) = B a + B b + 12 from B_infix a b (opTok op)] at hf
  exact ha f s _ _ r (turn_fuel hX hf) hta (stopAt_opTok op) hst
    (loop_turn (fun g s h => pLevelRest_op g _ s (binPI op) (h ▸ binOpAt_opTok op)) (fun g => hb.reads) hta hs hst hr)

theorem pUnionRest_bar (g : Nat) (s : PSt) (h : peekTok s = .ch (chr '|')) :
    pUnionRest (g + 1) s = (pPath g (adv s) >>= fun s2 => pUnionRest g (emit s2 .union)) := if_pos h

/-- **union is left-associative and binds tighter than everything else**: `a | b` after the operands so far -/
theorem UC_union (a b : PE) (ha : UC a) (hb : Pth b) : UC (.union a b) := by
  intro g s rest G r hG hg ht hs hst hr
  have hta : tk s = a.toks ++ (.ch (chr '|') :: (b.toks ++ rest)) := ht.trans (List.append_assoc ..)
  rw [show B (.union a b) = B a + B b + 12 from B_infix a b _] at hg
  exact ha g s _ _ r (Nat.le_add_left 1 _) (turn_fuel (X := 0) (Nat.zero_le 10) hg) hta stopP_bar hst
    (loop_turn pUnionRest_bar (fun g hg s rest => hb g s rest (Nat.le_add_right_of_le hg)) hta hs hst hr)

theorem ul_first (e : PE) (hu : e.ul = true) (hf : e.fits 6) (rest : List Tok) :
    (e.toks ++ rest).headD .eof ≠ .ch (chr '-') := by
  induction e generalizing rest with
  | union a b iha _ => exact List.append_assoc .. ▸ iha hf.1 hf.2.1 (.ch (chr '|') :: (b.toks ++ rest))
  | neg e _ | bin op a b _ _ => cases hu
  | _ => exact pl_first _ rfl rest

/-- what is proved of every expression, together: the loops of the binary levels it fits, and the three forms above
    them; the plain statement `T` follows at every level -/
def Prec (e : PE) : Prop :=
  (∀ k, k ≤ 5 → e.fits k → C e k) ∧ (e.fits 6 → U e) ∧ (e.pl = true → e.fits 6 → Pth e) ∧ (e.ul = true → e.fits 6 → UC e)

/-- the statement `T` of `e`, at every level it fits -/
theorem Prec.T {e : PE} (h : Prec e) (lvl : Nat) (hl : lvl ≤ 6) (hf : e.fits lvl) : T e lvl :=
  if h6 : lvl = 6 then h6 ▸ T6_of_U e (h.2.1 (h6 ▸ hf))
  else have h5 := Nat.le_of_lt_succ (Nat.lt_of_le_of_ne hl h6); T_of_C e lvl h5 (h.1 lvl h5 hf)

theorem Prec.T0 {e : PE} (h : Prec e) (hf : e.fits 0) : XP.T e 0 := h.T 0 (Nat.zero_le 6) hf

/-- an expression that is parsed at the unary level: the loops of all binary levels pass it on -/
theorem Prec.of_U {e : PE} (hfl : ∀ l, e.fits l → e.fits 6) (hu : e.fits 6 → U e) (hp : e.pl = true → e.fits 6 → Pth e)
    (huc : e.ul = true → e.fits 6 → UC e) : Prec e :=
  ⟨fun k hk hf => C_of_T e k (T_down (Nat.succ_le_succ hk) (Nat.le_refl 6) (T6_of_U e (hu (hfl k hf)))), hu, hp, huc⟩

theorem Prec.of_Pth {e : PE} (hpl : e.pl = true) (hfl : ∀ l, e.fits l → e.fits 6) (hp : e.fits 6 → Pth e) : Prec e :=
  .of_U hfl (fun hf => U_of_Pth e (hp hf) hpl) (fun _ => hp) fun _ hf => UC_of_Pth e (hp hf)

/-- **precedence and associativity**: every expression that carries the parentheses its shape needs parses,
    at every level it fits, to the postfix code of its tree -/
theorem prec_all (e : PE) : Prec e := by
  induction e with
  | path root steps => exact .of_Pth rfl (fun _ h => h) (P_path root steps)
  | num x => exact .of_Pth rfl (fun _ h => h) fun _ => P_num x
  | lit l => exact .of_Pth rfl (fun _ h => h) fun _ => P_lit l
  | paren e ih => exact .of_Pth rfl (fun _ h => h) fun hf => P_paren e (ih.T0 hf)
  | call0 fn => exact .of_Pth rfl (fun _ h => h) (P_call0 fn)
  | call1 fn a iha => exact .of_Pth rfl (fun _ h => h) fun hf => P_call1 fn a hf.1 (iha.T0 hf.2)
  | call2 fn a b iha ihb =>
    exact .of_Pth rfl (fun _ h => h) fun hf => P_call2 fn a b hf.1 (iha.T0 hf.2.1) (ihb.T0 hf.2.2)
  | call3 fn a b c iha ihb ihc =>
    exact .of_Pth rfl (fun _ h => h) fun hf =>
      P_call3 fn a b c hf.1 (iha.T0 hf.2.1) (ihb.T0 hf.2.2.1) (ihc.T0 hf.2.2.2)
  | neg e ih =>
    exact .of_U (fun _ h => h) (fun hf => U_neg e (ih.2.1 hf)) nofun nofun
  | union a b iha ihb =>
    have huc : (PE.union a b).fits 6 → UC (.union a b) := fun hf =>
      UC_union a b (iha.2.2.2 hf.1 hf.2.1) (ihb.2.2.1 hf.2.2.1 hf.2.2.2)
    exact .of_U (fun _ h => h) (fun hf => U_of_UC _ (huc hf) (ul_first _ rfl hf)) nofun fun _ => huc
  | bin op a b iha ihb =>
    have hk := level_le op
    have hc : ∀ l, (PE.bin op a b).fits l → C (.bin op a b) (level op) := fun l hf =>
      C_bin op a b (iha.1 (level op) hk hf.2.1) (ihb.T (level op + 1) (Nat.succ_le_succ hk) hf.2.2)
    refine ⟨fun k h hf => ?_, fun hf => ?_, nofun, nofun⟩
    · rcases Nat.eq_or_lt_of_le hf.1 with rfl | hlt
      · exact hc _ hf
      · exact C_of_T _ k (T_down hlt (Nat.le_succ_of_le hk) (T_of_C _ _ hk (hc k hf)))
    · exact absurd (Nat.le_trans hf.1 hk) (by decide)

/-- the tree behind the written expression: parentheses removed -/
inductive ET where
  | path (code : List PI)      -- a location path: what it compiles to (its predicates' texts may differ in parentheses)
  | num (x : SF) | lit (s : List Rune) | neg (e : ET) | bin (op : BinOp) (a b : ET) | union (a b : ET)
  | call0 (fn : Fn) | call1 (fn : Fn) (a : ET) | call2 (fn : Fn) (a b : ET) | call3 (fn : Fn) (a b c : ET)
  deriving Repr, DecidableEq

def PE.tree : PE → ET
  | .path root steps => .path (pathCode root steps)
  | .num x => .num x
  | .lit s => .lit s
  | .paren e => e.tree
  | .neg e => .neg e.tree
  | .bin op a b => .bin op a.tree b.tree
  | .union a b => .union a.tree b.tree
  | .call0 fn => .call0 fn
  | .call1 fn a => .call1 fn a.tree
  | .call2 fn a b => .call2 fn a.tree b.tree
  | .call3 fn a b c => .call3 fn a.tree b.tree c.tree

def ET.code : ET → List PI
  | .path c => c
  | .num x => [.num x]
  | .lit s => [.lit s]
  | .neg e => e.code ++ [.negate]
  | .bin op a b => a.code ++ b.code ++ [binPI op]
  | .union a b => a.code ++ b.code ++ [.union]
  | .call0 fn => [.bltin fn]
  | .call1 fn a => a.code ++ [.bltin fn]
  | .call2 fn a b => a.code ++ b.code ++ [.bltin fn]
  | .call3 fn a b c => a.code ++ b.code ++ c.code ++ [.bltin fn]

theorem code_tree (e : PE) : e.code = e.tree.code := by
  fun_induction PE.tree e <;> simp only [PE.code, ET.code, *]

/-- `parseExprToks` on the tokens of a written expression (followed by the end-of-input token): the
    program is the postfix code of the tree, then `store` -/
theorem parseExprToks_spec (e : PE) (hf : e.fits 0) (toks : List LexedTok)
    (ht : toks.map (·.tok) = e.toks ++ [.eof]) :
    ∃ s', parseExprToks false toks = .ok s' ∧ s'.out.reverse = e.tree.code ++ [.store] ∧ s'.perr = none := by
  have hlen : toks.length = e.toks.length + 1 := by simpa using congrArg List.length ht
  have h := (prec_all e).T0 hf (24 * toks.length + 24) { toks := toks, strict := false } [.eof]
    (hlen ▸ Nat.le_trans (Nat.mul_le_mul_right (e.toks.length + 1) (by decide : 20 ≤ 24)) (Nat.le_add_right _ 24))
    ht (stopAt_close 0 _ (.inr (.inr (.inr rfl)))) rfl
  refine ⟨emit (done e { toks := toks, strict := false }) .store, ?_, by simp [emit, done, code_tree], rfl⟩
  unfold parseExprToks
  rw [h, ok_bind]
  exact if_pos (peek_done e { toks := toks, strict := false } [.eof] ht)

/-- every written expression can stand in a predicate: predicates nest to any depth -/
theorem blk_of (e : PE) (hf : e.fits 0) : BlkOK ⟨e.toks, e.code⟩ :=
  fun f s rest hfu => (prec_all e).T0 hf f s rest hfu

end YV.XP
