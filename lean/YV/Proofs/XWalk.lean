/-
  Proofs.XWalk — the one induction over the two parsers.  Every function of the must / when parser and of the
  leafref path parser changes its state only by five moves (`Stable`), and calls the others with one unit of fuel
  less.  So for any set `I` of states that no move leaves, every function called in `I` on a state with at most `n`
  tokens (`Walks`; `walk_all`, `walkL_all`, by induction on the fuel): returns in `I`, returns at most `n` tokens,
  and does not run out of fuel if it has 24 (leafref: 8) units per token plus its own offset — the number of
  calls that can follow one another before a token is consumed.  XNames (accepted prefixes) and XReject
  (unsupported tokens) are instances of `I`; XTotal reads off the fuel.
-/
import YV.Proofs.XPSt
namespace YV.XP
open YV YV.X YV.XL

/-- tokens of unsupported constructs -/
def bad : Tok → Bool
  | .dblslash => true
  | .axisname _ => true
  | .nodetype _ => true
  | .ch c => c = chr '@'
  | _ => false

/-- every instruction but Name-Push, the one whose emission `Stable.name` ties to the token under the read head -/
def PI.plain : PI → Prop
  | .namePush .. => False
  | _ => True

/-- a set of parser states that no move of the parsers leaves.  The moves: read a supported token; read any token
    and record an error; emit an instruction that carries no name; turn the name test under the read head into a
    Name-Push; record an error. -/
structure Stable (I : PSt → Prop) : Prop where
  read : ∀ {s t}, I s → peekTok s = t → bad t = false → I (adv s)
  skip : ∀ {s} (m : String), I s → I (setErr (adv s) m)
  put : ∀ {s} (i : PI), I s → i.plain → I (emit s i)
  name : ∀ {s p l}, I s → peekTok s = .nametest p l → I (emit (adv s) (.namePush p l))
  fail : ∀ {s} (m : String), I s → I (setErr s m)

theorem len_adv_le {s : PSt} {n : Nat} (hn : s.toks.length ≤ n) : (adv s).toks.length ≤ n :=
  Nat.le_trans (len_adv s) hn

theorem len_adv_lt {s : PSt} {t : Tok} {n : Nat} (h : peekTok s = t) (ht : t ≠ .eof) (hn : s.toks.length ≤ n) :
    (adv s).toks.length < n := by
  obtain ⟨lt, _, h2⟩ := toks_of_peek h ht
  rw [h2] at hn
  exact hn

theorem stable_len (n : Nat) : Stable (fun s => s.toks.length ≤ n) where
  read h _ _ := len_adv_le h
  skip _ h := len_adv_le h
  put _ h _ := h
  name h _ := len_adv_le h
  fail _ h := h

theorem Stable.and {I J : PSt → Prop} (hI : Stable I) (hJ : Stable J) : Stable (fun s => I s ∧ J s) where
  read h hp hb := ⟨hI.read h.1 hp hb, hJ.read h.2 hp hb⟩
  skip m h := ⟨hI.skip m h.1, hJ.skip m h.2⟩
  put i h hi := ⟨hI.put i h.1 hi, hJ.put i h.2 hi⟩
  name h hp := ⟨hI.name h.1 hp, hJ.name h.2 hp⟩
  fail m h := ⟨hI.fail m h.1, hJ.fail m h.2⟩

/-- `.error .fuel` is the model's own way out when its recursion budget is spent, not a verdict of the parser -/
def NoFuel (r : P PSt) : Prop := r ≠ .error .fuel

/-- a successful result lies in `I`; nothing is said of errors -/
def Lands (I : PSt → Prop) (r : P PSt) : Prop := ∀ s', r = .ok s' → I s'

/-- under the premise `p` (enough fuel) the result is not a fuel error; a successful result lies in `I` -/
def Safe (I : PSt → Prop) (p : Prop) (r : P PSt) : Prop := (p → NoFuel r) ∧ Lands I r

/-- `Safe`, and a successful result has at most `n` tokens left: the form in which a call is used, because the
    caller's arithmetic needs what the callee has left -/
def SafeN (I : PSt → Prop) (p : Prop) (n : Nat) (r : P PSt) : Prop := Safe (fun a => I a ∧ a.toks.length ≤ n) p r

/-! Why the fuel lasts, with `w` units for each of the at most `n` tokens left and an offset on top: a call made
    before a token has been read has a smaller offset (`fuel_same`); a call made after one has been read may have any
    offset below `w` (`fuel_next`). -/

theorem fuel_same {w n a b f : Nat} (hb : b < a) (h : w * n + a ≤ f + 1) : w * n + b ≤ f :=
  Nat.le_of_lt_succ (Nat.lt_of_lt_of_le (Nat.add_lt_add_left hb _) h)

theorem fuel_next {w m n a b f : Nat} (hm : m < n) (hb : b < w) (h : w * n + a ≤ f + 1) : w * m + b ≤ f :=
  Nat.le_of_lt_succ (Nat.lt_of_lt_of_le (Nat.add_lt_add_left hb _)
    (Nat.le_trans (Nat.mul_le_mul_left w hm) (Nat.le_trans (Nat.le_add_right _ _) h)))

section
variable {I : PSt → Prop} {p q : Prop}

theorem Lands.ret {s : PSt} (h : I s) : Lands I (pure s) := by
  intro s' hs; cases hs; exact h

theorem Safe.ret {s : PSt} (h : I s) : Safe I p (pure s) := ⟨fun _ => nofun, .ret h⟩

theorem Safe.syn {s : PSt} : Safe I p (synErr s) := ⟨fun _ => nofun, fun _ h => nomatch h⟩

/-- out of fuel at fuel 0: no offset is 0 -/
theorem Safe.fuel {w n off : Nat} (h : 0 < off) : Safe I (w * n + off ≤ 0) (.error .fuel) :=
  ⟨fun h0 => absurd (Nat.le_trans h (Nat.le_trans (Nat.le_add_left off _) h0)) (Nat.not_succ_le_zero 0),
    fun _ h => nomatch h⟩

theorem Safe.mono {r : P PSt} (h : Safe I q r) (hq : p → q) : Safe I p r := ⟨fun hp => h.1 (hq hp), h.2⟩

theorem Safe.ite {c : Prop} [Decidable c] {x y : P PSt} (hx : c → Safe I p x) (hy : ¬ c → Safe I p y) :
    Safe I p (if c then x else y) := by
  split
  · exact hx ‹_›
  · exact hy ‹_›

theorem SafeN.lands {n : Nat} {r : P PSt} (h : SafeN I p n r) : Lands I r := fun s' hs => (h.2 s' hs).1

theorem SafeN.tail {n : Nat} {r : P PSt} (h : SafeN I q n r) (hq : p → q) : Safe I p r :=
  ⟨fun hp => h.1 (hq hp), h.lands⟩

/-- a call, continued; the continuation may use that the call has returned no more than `m` tokens -/
theorem SafeN.bind {J : PSt → Prop} {m : Nat} {x : P PSt} {g : PSt → P PSt} (hx : SafeN I q m x) (hq : p → q)
    (hg : ∀ a, I a → a.toks.length ≤ m → Safe J p (g a)) : Safe J p (x >>= g) := by
  cases x with
  | error e => exact ⟨fun hp => hx.1 (hq hp), fun _ h => nomatch h⟩
  | ok a => exact hg a (hx.2 a rfl).1 (hx.2 a rfl).2

variable (hI : Stable I)
include hI

theorem SafeN.expectCh (c : Char) (hc : bad (.ch (chr c)) = false) {s : PSt} {n : Nat} (h : I s)
    (hn : s.toks.length ≤ n) : SafeN I p n (expectCh c s) :=
  .ite (fun hp => .ret ⟨hI.read h hp hc, len_adv_le hn⟩) fun _ => .syn

theorem SafeN.emitEnd {m : Nat} {x : P PSt} (i : PI) (hi : i.plain) (hx : SafeN I q m x) (hq : p → q) :
    Safe I p (x >>= fun s => pure (emit s i)) :=
  hx.bind hq fun _ ha _ => .ret (hI.put i ha hi)

end

/-- `g`, a parser function at fuel `f`, has offset `off` where a token weighs `w`: called in a stable set on a state
    with at most `n` tokens, it does not run out of fuel if `w * n + off ≤ f`, and it returns in the set, with at most
    `n` tokens -/
def Walks (w f off : Nat) (g : PSt → P PSt) : Prop :=
  ∀ ⦃I n⦄, Stable I → ∀ s, I s → s.toks.length ≤ n → SafeN I (w * n + off ≤ f) n (g s)

/-- the token count comes for free: what holds of every stable set holds of `I ∧ length ≤ n`, in which `s` lies -/
theorem Walks.of_step {w f off : Nat} {g : PSt → P PSt}
    (h : ∀ {I n}, Stable I → ∀ s, I s → s.toks.length ≤ n → Safe I (w * n + off ≤ f) (g s)) : Walks w f off g :=
  fun _ _ hI s hs hn => h (hI.and (stable_len _)) s ⟨hs, hn⟩ hn

theorem Walks.lands {w f off : Nat} {g : PSt → P PSt} (hg : Walks w f off g) {I : PSt → Prop} (hI : Stable I)
    (s : PSt) (h : I s) : Lands I (g s) :=
  (hg hI s h (Nat.le_refl _)).lands

/-- the eleven functions of the must / when parser at one fuel.  The offsets: how many calls can follow one
    another before a token is consumed. -/
structure Walk (f : Nat) : Prop where
  level : ∀ lvl, Walks 24 f (6 + (6 - lvl)) (pLevel f lvl)
  levelRest : ∀ lvl, Walks 24 f 1 (pLevelRest f lvl)
  unary : Walks 24 f 5 (pUnary f)
  unionRest : Walks 24 f 1 (pUnionRest f)
  path : Walks 24 f 4 (pPath f)
  locPath : Walks 24 f 3 (pLocationPath f)
  filterPath : Walks 24 f 3 (pFilterPath f)
  primary : Walks 24 f 1 (pPrimary f)
  preds : Walks 24 f 1 (pPreds f)
  relPath : Walks 24 f 2 (pRelPath f)
  step : Walks 24 f 1 (pStep f)

/-- the tokens a FilterExpr (PrimaryExpr Predicate*) starts with: '(', a literal, a number, a function name, a node type -/
def startsFilter : Tok → Bool
  | .ch c => c = chr '('
  | .lit _ | .num _ | .func _ | .textfunc | .nodetype _ => true
  | _ => false

theorem synErr_bind {α β : Type} (s : PSt) (k : α → P β) : synErr s >>= k = synErr s := rfl

/-- PathExpr: a FilterExpr with its path, or a LocationPath and its evaluation -/
theorem pPath_eq (f : Nat) (s : PSt) : pPath (f + 1) s =
    if startsFilter (peekTok s) then pFilterPath f s
    else pLocationPath (f + 1) s >>= fun s => pure (emit s .evalLocPath) := by
  rw [pPath, pLocationPath]
  cases peekTok s with
  -- both sides in the form the `do` blocks of `pPath` have: binds nested to the right, and the closing `evalLocPath`
  -- carried into the branches of every `if`
  | ch c | currentfunc | dereffunc =>
    simp only [startsFilter.eq_def, bind_assoc, synErr_bind, decide_eq_true_eq, Bool.false_eq_true, ↓reduceIte,
      apply_ite (fun x : P PSt => x >>= fun s => pure (emit s PI.evalLocPath))]
  | _ => rfl

theorem binOpAt_some {lvl : Nat} {t : Tok} {i : PI} (h : binOpAt lvl t = some i) :
    i.plain ∧ bad t = false ∧ t ≠ .eof := by
  -- row by row: where `binOpAt` gives an instruction, token and instruction are literals and the three claims hold
  -- by evaluation
  revert h
  fun_cases binOpAt lvl t
  all_goals intro h
  all_goals cases h
  all_goals exact ⟨trivial, rfl, nofun⟩

section
variable (f : Nat) (ih : Walk f)
include ih

/-! The inductive step, for a state `s` of a stable set, with `hn : s.toks.length ≤ n`.  A call made before a token
    has been read is made with the same `n` (by `hn`, or by what an earlier call has returned: the last binder of a
    continuation `fun a ha la =>`) and a smaller offset; once the token under the read head is known not to be the
    end of input (`len_adv_lt`), the calls are made with the number of tokens behind it.

    Where a statement spells out a piece of a parser function (`safe_nodeTest`, `safe_optRel`, `fin_stable`, the
    `tail` of `safe_parseLeafrefToks`), that piece is a local `let`, or a join point of the `do` block, of the
    function in Model/XParse.lean: it has no name there and the statement has to follow its text. -/

theorem walk_level (lvl : Nat) : Walks 24 (f + 1) (6 + (6 - lvl)) (pLevel (f + 1) lvl) := .of_step fun hI s h hn => by
  rw [pLevel]
  refine .ite (fun _ => ?_) fun hl => ?_
  · exact (ih.unary hI s h hn).tail (fuel_same (Nat.lt_add_right _ (by decide)))
  · have hd : 6 - (lvl + 1) < 6 - lvl := Nat.sub_succ_lt_self 6 lvl (Nat.lt_of_not_le hl)
    exact (ih.level (lvl + 1) hI s h hn).bind (fuel_same (Nat.add_lt_add_left hd 6)) fun a ha la =>
      (ih.levelRest lvl hI a ha la).tail (fuel_same (Nat.lt_add_right _ (by decide)))

theorem walk_levelRest (lvl : Nat) : Walks 24 (f + 1) 1 (pLevelRest (f + 1) lvl) := .of_step fun hI s h hn => by
  rw [pLevelRest]
  split
  · exact .ret h
  · rename_i i hi
    obtain ⟨h1, h2, h3⟩ := binOpAt_some hi
    have hm := len_adv_lt rfl h3 hn
    have hd : 6 + (6 - (lvl + 1)) < 24 := Nat.lt_of_le_of_lt (Nat.add_le_add_left (Nat.sub_le ..) 6) (by decide)
    exact (ih.level (lvl + 1) hI _ (hI.read h rfl h2) (Nat.le_refl _)).bind (fuel_next hm hd) fun a ha la =>
      (ih.levelRest lvl hI _ (hI.put i ha h1) la).tail (fuel_next hm (by decide))

theorem walk_unary : Walks 24 (f + 1) 5 (pUnary (f + 1)) := .of_step fun hI s h hn => by
  rw [pUnary]
  refine .ite (fun hp => ?_) fun _ => ?_
  · exact (ih.unary hI _ (hI.read h hp rfl) (Nat.le_refl _)).emitEnd hI _ trivial
      (fuel_next (len_adv_lt hp nofun hn) (by decide))
  · exact (ih.path hI s h hn).bind (fuel_same (by decide)) fun a ha la =>
      (ih.unionRest hI a ha la).tail (fuel_same (by decide))

theorem walk_unionRest : Walks 24 (f + 1) 1 (pUnionRest (f + 1)) := .of_step fun hI s h hn => by
  rw [pUnionRest]
  refine .ite (fun hp => ?_) fun _ => .ret h
  have hm := len_adv_lt hp nofun hn
  exact (ih.path hI _ (hI.read h hp rfl) (Nat.le_refl _)).bind (fuel_next hm (by decide)) fun a ha la =>
    (ih.unionRest hI _ (hI.put .union ha trivial) la).tail (fuel_next hm (by decide))

theorem walk_preds : Walks 24 (f + 1) 1 (pPreds (f + 1)) := .of_step fun hI s h hn => by
  rw [pPreds]
  refine .ite (fun hp => ?_) fun _ => .ret h
  have hm := len_adv_lt hp nofun hn
  exact (ih.level 0 hI _ (hI.put .predStart (hI.read h hp rfl) trivial) (Nat.le_refl _)).bind
    (fuel_next hm (by decide)) fun a ha la => (SafeN.expectCh hI ']' rfl ha la).bind id fun b hb lb =>
      (ih.preds hI _ (hI.put .predEnd hb trivial) lb).tail (fuel_next hm (by decide))

/-- the node test of a step (shared by the three ways a step can start) -/
theorem safe_nodeTest {I : PSt → Prop} (hI : Stable I) {n : Nat} (s : PSt) (h : I s) (hn : s.toks.length ≤ n) :
    Safe I (24 * n + 1 ≤ f + 1) (match peekTok s with
      | .nametest px l => do
        let s := emit (adv s) (.namePush px l)
        if peekTok s = .ch (chr '[') then do
          let s ← pPreds f (emit s .predicatesStart)
          pure (emit s .predicatesEnd)
        else pure s
      | _ => synErr s) := by
  split
  · rename_i px l hp
    have h1 := hI.name h hp
    refine .ite (fun _ => ?_) fun _ => .ret h1
    exact (ih.preds hI _ (hI.put .predicatesStart h1 trivial) (Nat.le_refl _)).emitEnd hI _ trivial
      (fuel_next (len_adv_lt hp nofun hn) (by decide))
  · exact .syn

theorem walk_step : Walks 24 (f + 1) 1 (pStep (f + 1)) := .of_step fun hI s h hn => by
  rw [pStep]
  split
  · rename_i c hp
    refine .ite (fun hc => .ret (hI.read h (hc ▸ hp) rfl)) fun _ => .ite (fun _ => ?_) fun _ => .syn
    exact safe_nodeTest f ih hI _ (hI.skip _ h) (len_adv_le hn)
  · rename_i hp
    exact .ret (hI.put _ (hI.read h hp rfl) trivial)
  · refine .ite (fun hp2 => ?_) fun _ => .syn
    -- recording the error commutes with reading the '::'
    exact safe_nodeTest f ih hI _ (hI.read (hI.skip "AxisName unsupported" h) hp2 rfl) (len_adv_le (len_adv_le hn))
  · exact safe_nodeTest f ih hI s h hn
  · exact .syn

theorem walk_relPath : Walks 24 (f + 1) 2 (pRelPath (f + 1)) := .of_step fun hI s h hn => by
  rw [pRelPath]
  refine (ih.step hI s h hn).bind (fuel_same (by decide)) fun a ha la => ?_
  split
  · rename_i c hp
    refine .ite (fun hc => ?_) fun _ => .ret ha
    exact (ih.relPath hI _ (hI.read ha (hc ▸ hp) rfl) (Nat.le_refl _)).tail
      (fuel_next (len_adv_lt hp nofun la) (by decide))
  · rename_i hp
    exact (ih.relPath hI _ (hI.skip _ ha) (Nat.le_refl _)).tail (fuel_next (len_adv_lt hp nofun la) (by decide))
  · exact .ret ha

theorem walk_filterPath : Walks 24 (f + 1) 3 (pFilterPath (f + 1)) := .of_step fun hI s h hn => by
  rw [pFilterPath]
  refine (ih.primary hI s h hn).bind (fuel_same (by decide)) fun a ha la =>
    (ih.preds hI a ha la).bind (fuel_same (by decide)) fun b hb lb => ?_
  have he := hI.put .filterExprEnd hb trivial
  split
  · rename_i c hp
    refine .ite (fun hc => ?_) fun _ => .ret hb
    exact (ih.relPath hI _ (hI.read he (hc ▸ hp) rfl) (Nat.le_refl _)).emitEnd hI _ trivial
      (fuel_next (len_adv_lt hp nofun lb) (by decide))
  · rename_i hp
    exact (ih.relPath hI _ (hI.skip _ he) (Nat.le_refl _)).emitEnd hI _ trivial
      (fuel_next (len_adv_lt hp nofun lb) (by decide))
  · exact .ret hb

/-- what follows `current()` / `deref(…)`: an optional '/' RelativeLocationPath -/
theorem safe_optRel {I : PSt → Prop} (hI : Stable I) {n : Nat} (s : PSt) (h : I s) (hn : s.toks.length ≤ n) :
    Safe I (24 * n + 2 ≤ f) (if peekTok s = .ch (chr '/') then pRelPath f (adv s) else pure s) :=
  .ite (fun hp => (ih.relPath hI _ (hI.read h hp rfl) (len_adv_le hn)).tail id) fun _ => .ret h

theorem walk_locPath : Walks 24 (f + 1) 3 (pLocationPath (f + 1)) := .of_step fun {_ n} hI s h hn => by
  have hrel := (ih.relPath hI s h hn).tail (p := 24 * n + 3 ≤ f + 1) (fuel_same (by decide))
  rw [pLocationPath]
  split
  · rename_i c hp
    refine .ite (fun hc => ?_) fun _ => .ite (fun _ => hrel) fun _ => .syn
    have hr := hI.put .pathRoot (hI.read h (hc ▸ hp) rfl) trivial
    refine .ite (fun _ => ?_) fun _ => .ret hr
    exact (ih.relPath hI _ hr (Nat.le_refl _)).tail (fuel_next (len_adv_lt hp nofun hn) (by decide))
  · rename_i hp
    exact (ih.relPath hI _ (hI.skip _ h) (Nat.le_refl _)).tail (fuel_next (len_adv_lt hp nofun hn) (by decide))
  · exact hrel
  · exact hrel
  · exact hrel
  · rename_i hp
    exact (SafeN.expectCh hI '(' rfl (hI.read h hp rfl) (Nat.le_refl _)).bind id fun a ha la =>
      (SafeN.expectCh hI ')' rfl ha la).bind id fun b hb lb =>
        (safe_optRel f ih hI _ (hI.put .pathSetCurrent hb trivial) lb).mono
          (fuel_next (len_adv_lt hp nofun hn) (by decide))
  · rename_i hp
    have hm := len_adv_lt hp nofun hn
    exact (SafeN.expectCh hI '(' rfl (hI.read h hp rfl) (Nat.le_refl _)).bind id fun a ha la =>
      (ih.locPath hI a ha la).bind (fuel_next hm (by decide)) fun b hb lb =>
        (SafeN.expectCh hI ')' rfl hb lb).bind id fun c hc lc =>
          (safe_optRel f ih hI _ (hI.put .deref hc trivial) lc).mono (fuel_next hm (by decide))
  · exact .syn

theorem walk_path : Walks 24 (f + 1) 4 (pPath (f + 1)) := .of_step fun hI s h hn => by
  rw [pPath_eq]
  refine .ite (fun _ => (ih.filterPath hI s h hn).tail (fuel_same (by decide))) fun _ => ?_
  exact SafeN.emitEnd hI _ trivial (walk_locPath f ih hI s h hn) Nat.le_of_succ_le

omit ih in
theorem fin_stable {I : PSt → Prop} (hI : Stable I) {s : PSt} (h : I s) (c : Prop) [Decidable c] (m : String)
    (fn : Fn) : I (emit (if c then setErr s m else s) (.bltin fn)) := by
  split
  · exact hI.put _ (hI.fail m h) trivial
  · exact hI.put _ h trivial

theorem walk_primary : Walks 24 (f + 1) 1 (pPrimary (f + 1)) := .of_step fun hI s h hn => by
  rw [pPrimary]
  split
  · rename_i c hp
    refine .ite (fun hc => ?_) fun _ => .syn
    have hopen := hI.read h (hc ▸ hp) rfl
    refine .ite (fun hp2 => .ite (fun _ => .syn) fun _ => .ret (hI.read hopen hp2 rfl)) fun _ => ?_
    exact (ih.level 0 hI _ hopen (Nat.le_refl _)).bind (fuel_next (len_adv_lt hp nofun hn) (by decide))
      fun a ha la => (SafeN.expectCh hI ')' rfl ha la).tail id
  · rename_i l hp
    exact .ret (hI.put _ (hI.read h hp rfl) trivial)
  · rename_i x hp
    exact .ret (hI.put _ (hI.read h hp rfl) trivial)
  · exact .ret (hI.skip _ h)
  · rename_i hp
    exact (SafeN.expectCh hI '(' rfl (hI.read h hp rfl) (Nat.le_refl _)).bind id fun a ha la =>
      (SafeN.expectCh hI ')' rfl ha la).tail id
  · rename_i fn hp
    have hm := len_adv_lt hp nofun hn
    refine (SafeN.expectCh hI '(' rfl (hI.read h hp rfl) (Nat.le_refl _)).bind id fun a ha la => ?_
    refine .ite (fun hp2 => .ret (fin_stable hI (hI.read ha hp2 rfl) _ _ _)) fun _ => ?_
    refine (ih.level 0 hI a ha la).bind (fuel_next hm (by decide)) fun b hb lb => ?_
    refine .ite (fun hp2 => .ret (fin_stable hI (hI.read hb hp2 rfl) _ _ _)) fun _ => ?_
    refine (SafeN.expectCh hI ',' rfl hb lb).bind id fun c hc lc =>
      (ih.level 0 hI c hc lc).bind (fuel_next hm (by decide)) fun d hd ld => ?_
    refine .ite (fun hp2 => .ret (fin_stable hI (hI.read hd hp2 rfl) _ _ _)) fun _ => ?_
    exact (SafeN.expectCh hI ',' rfl hd ld).bind id fun e he le =>
      (ih.level 0 hI e he le).bind (fuel_next hm (by decide)) fun g hg lg =>
        (SafeN.expectCh hI ')' rfl hg lg).bind id fun k hk _ => .ret (fin_stable hI hk _ _ _)
  · exact .syn

end

theorem walk_all (f : Nat) : Walk f := by
  induction f with
  | zero =>
    refine ⟨fun _ _ _ _ _ _ _ => .fuel (Nat.lt_add_right _ (by decide)), ?_, ?_, ?_, ?_, ?_, ?_, ?_, ?_, ?_, ?_⟩ <;>
      intros <;> exact fun _ _ _ _ _ _ => .fuel (by decide)
  | succ f ih =>
    exact ⟨walk_level f ih, walk_levelRest f ih, walk_unary f ih, walk_unionRest f ih, walk_path f ih,
      walk_locPath f ih, walk_filterPath f ih, walk_primary f ih, walk_preds f ih, walk_relPath f ih, walk_step f ih⟩

/-- `parseExprToks`: an accepted token list was parsed inside `I` up to its end-of-input token -/
theorem safe_parseExprToks {I : PSt → Prop} (hI : Stable I) (strict : Bool) (toks : List LexedTok)
    (h0 : I { toks := toks, strict := strict }) :
    Safe (fun s' => ∃ a, I a ∧ peekTok a = .eof ∧ s' = emit a .store) True (parseExprToks strict toks) := by
  unfold parseExprToks
  refine ((walk_all _).level 0 hI _ h0 (Nat.le_refl _)).bind (fun _ => Nat.add_le_add_left (by decide) _)
    fun a ha _ => .ite (fun hp => .ret ⟨a, ha, hp, rfl⟩) fun _ => .syn

/-- the six recursive functions of the leafref path parser, at one fuel, with their offsets (`lPreds` reads a '['
    that only its caller has looked at) -/
structure WalkL (f : Nat) : Prop where
  keyNames : Walks 8 f 1 (lKeyPath.lKeyNames f)
  keyPath : ∀ up, Walks 8 f 2 (lKeyPath f up)
  afterNode : Walks 8 f 3 (lSteps.lAfterNode f)
  steps : Walks 8 f 1 (lSteps f)
  preds : ∀ {I n}, Stable I → ∀ s, peekTok s = .ch (chr '[') → I s → s.toks.length ≤ n →
    SafeN I (8 * n + 3 ≤ f) n (lPreds f s)
  rel : Walks 8 f 1 (lRel f)

section
variable {I : PSt → Prop} {p : Prop} (hI : Stable I) {n : Nat}
include hI

/-- a node identifier, continued; the continuation may use that a token has been consumed -/
theorem lNodeId_bind {s : PSt} {g : PSt → P PSt} (h : I s) (hn : s.toks.length ≤ n)
    (hg : ∀ a, I a → a.toks.length < n → Safe I p (g a)) : Safe I p (lNodeId s >>= g) := by
  unfold lNodeId
  split
  · rename_i hp
    exact hg _ (hI.name h hp) (len_adv_lt hp nofun hn)
  · exact .syn

theorem SafeN.lExpectTok (t : Tok) (ht : bad t = false) {s : PSt} (h : I s) (hn : s.toks.length ≤ n) :
    SafeN I p n (lExpectTok t s) :=
  .ite (fun hp => .ret ⟨hI.read h hp ht, len_adv_le hn⟩) fun _ => .syn

end

section
variable (f : Nat) (ih : WalkL f)
include ih

/-- one predicate, from the state in which its '[' has been read -/
theorem safe_lPred {I : PSt → Prop} (hI : Stable I) {n : Nat} (s : PSt) (h : I (emit (adv s) .lrefPredStart))
    (hn : (adv s).toks.length ≤ n) :
    Safe I (8 * n + 2 ≤ f) (lPred f s) := by
  unfold lPred
  refine lNodeId_bind hI h hn fun a ha la =>
    (SafeN.lExpectTok hI .eq rfl ha (Nat.le_of_lt la)).bind id fun b hb lb => ?_
  dsimp only
  split
  · rename_i hq
    refine SafeN.bind (.ret ⟨hI.read (hI.put .lrefEquals hb trivial) hq rfl, len_adv_le lb⟩) id fun c hc lc => ?_
    exact (SafeN.expectCh hI '(' rfl hc lc).bind id fun d hd ld => (SafeN.expectCh hI ')' rfl hd ld).bind id
      fun e he le => (SafeN.expectCh hI '/' rfl he le).bind id fun g hg lg =>
        (ih.keyPath false hI g hg lg).bind id fun k hk lk =>
          (SafeN.expectCh hI ']' rfl hk lk).emitEnd hI .lrefPredEnd trivial id
  · exact .syn

theorem safeN_lPred {I : PSt → Prop} (hI : Stable I) (s : PSt) (hp : peekTok s = .ch (chr '[')) (h : I s) :
    SafeN I (8 * (adv s).toks.length + 2 ≤ f) (adv s).toks.length (lPred f s) :=
  safe_lPred f ih (hI.and (stable_len _)) s ⟨hI.put .lrefPredStart (hI.read h hp rfl) trivial, Nat.le_refl _⟩
    (Nat.le_refl _)

theorem walkL_keyNames : Walks 8 (f + 1) 1 (lKeyPath.lKeyNames (f + 1)) := .of_step fun hI s h hn => by
  rw [lKeyPath.lKeyNames]
  refine lNodeId_bind hI h hn fun a ha la => .ite (fun hp => ?_) fun _ => .ret ha
  exact (ih.keyNames hI _ (hI.read ha hp rfl) (Nat.le_refl _)).tail
    (fuel_next (Nat.lt_of_le_of_lt (len_adv a) la) (by decide))

theorem walkL_keyPath (up : Bool) : Walks 8 (f + 1) 2 (lKeyPath (f + 1) up) := .of_step fun hI s h hn => by
  rw [lKeyPath]
  split
  · rename_i hp
    have hm := len_adv_lt hp nofun hn
    exact (SafeN.expectCh hI '/' rfl (hI.put .pathDotDot (hI.read h hp rfl) trivial) (Nat.le_refl _)).bind id
      fun a ha la => (ih.keyPath true hI a ha la).tail (fuel_next hm (by decide))
  · exact .ite (fun _ => .syn) fun _ => (ih.keyNames hI s h hn).tail (fuel_same (by decide))
  · exact .syn

theorem walkL_afterNode : Walks 8 (f + 1) 3 (lSteps.lAfterNode (f + 1)) := .of_step fun hI s h hn => by
  rw [lSteps.lAfterNode]
  refine .ite (fun hp => ?_) fun _ => .ite (fun hp => ?_) fun _ => .ret h
  · have hm := len_adv_lt hp nofun hn
    exact (safeN_lPred f ih hI s hp h).bind (fuel_next hm (by decide)) fun a ha la =>
      (ih.afterNode hI a ha la).tail (fuel_next hm (by decide))
  · exact (ih.steps hI _ (hI.read h hp rfl) (len_adv_le hn)).tail (fuel_same (by decide))

theorem walkL_steps : Walks 8 (f + 1) 1 (lSteps (f + 1)) := .of_step fun hI s h hn => by
  rw [lSteps]
  exact lNodeId_bind hI h hn fun a ha la => (ih.afterNode hI a ha (Nat.le_refl _)).tail (fuel_next la (by decide))

theorem walkL_preds {I : PSt → Prop} (hI : Stable I) {n : Nat} (s : PSt) (hp : peekTok s = .ch (chr '[')) (h : I s)
    (hn : s.toks.length ≤ n) : Safe I (8 * n + 3 ≤ f + 1) (lPreds (f + 1) s) := by
  rw [lPreds]
  have hm := len_adv_lt hp nofun hn
  refine (safeN_lPred f ih hI s hp h).bind (fuel_next hm (by decide)) fun a ha la =>
    .ite (fun hq => ?_) fun _ => .ret ha
  exact (ih.preds hI a hq ha la).tail (fuel_next hm (by decide))

theorem safe_lDesc {I : PSt → Prop} (hI : Stable I) {n : Nat} (s : PSt) (h : I s) (hn : s.toks.length ≤ n) :
    Safe I (8 * n + 1 ≤ f + 1) (lDesc f s) := by
  unfold lDesc
  refine lNodeId_bind hI h hn fun a ha la => .ite (fun hp => ?_) fun _ => .ite (fun hp => ?_) fun _ => .ret ha
  · exact (ih.preds hI a hp ha (Nat.le_refl _)).bind (fuel_next la (by decide)) fun b hb lb =>
      (SafeN.expectCh hI '/' rfl hb lb).bind id fun c hc lc => (ih.steps hI c hc lc).tail (fuel_next la (by decide))
  · exact (ih.steps hI _ (hI.read ha hp rfl) (len_adv_le (Nat.le_refl _))).tail (fuel_next la (by decide))

theorem walkL_rel : Walks 8 (f + 1) 1 (lRel (f + 1)) := .of_step fun hI s h hn => by
  rw [lRel]
  split
  · rename_i hp
    have hm := len_adv_lt hp nofun hn
    refine (SafeN.expectCh hI '/' rfl (hI.put .pathDotDot (hI.read h hp rfl) trivial) (Nat.le_refl _)).bind id
      fun a ha la => ?_
    split
    · exact (ih.rel hI a ha la).tail (fuel_next hm (by decide))
    · exact safe_lDesc f ih hI a ha (Nat.le_trans la (Nat.le_of_lt hm))
  · exact .syn

end

theorem walkL_all (f : Nat) : WalkL f := by
  induction f with
  | zero =>
    refine ⟨?_, ?_, ?_, ?_, fun _ _ _ _ _ => .fuel (by decide), ?_⟩ <;> intros <;>
      exact fun _ _ _ _ _ _ => .fuel (by decide)
  | succ f ih =>
    exact ⟨walkL_keyNames f ih, walkL_keyPath f ih, walkL_afterNode f ih, walkL_steps f ih,
      fun hI s hp h hn => walkL_preds f ih (hI.and (stable_len _)) s hp ⟨h, hn⟩ hn, walkL_rel f ih⟩

theorem safe_parseLeafrefToks {I : PSt → Prop} (hI : Stable I) (toks : List LexedTok) (h0 : I { toks := toks }) :
    Safe I True (parseLeafrefToks toks) := by
  have hW := walkL_all (8 * toks.length + 8)
  have tail : ∀ a, I a → Safe I True (if peekTok (emit a .evalLocPath) = .eof
      then pure (emit (emit a .evalLocPath) .store) else synErr (emit a .evalLocPath)) :=
    fun a ha => .ite (fun _ => .ret (hI.put .store (hI.put .evalLocPath ha trivial) trivial)) fun _ => .syn
  unfold parseLeafrefToks
  dsimp only
  split
  · rename_i c hp
    refine .ite (fun hc => ?_) fun _ => .syn
    exact (hW.steps hI _ (hI.put .pathRoot (hI.read h0 (hc ▸ hp) rfl) trivial) (len_adv _)).bind
      (fun _ => Nat.add_le_add_left (by decide) _) fun a ha _ => tail a ha
  · exact (hW.rel hI _ h0 (Nat.le_refl _)).bind (fun _ => Nat.add_le_add_left (by decide) _) fun a ha _ => tail a ha
  · exact .syn

end YV.XP
